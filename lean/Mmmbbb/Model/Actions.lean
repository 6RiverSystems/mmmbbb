/-
The actions of `/repo/actions`, one SQL statement at a time, in the order the Go code issues them
and with the predicates the Go code puts into each `Where`.

A transaction is a function `… → Except Err TxOut`: on `.error` nothing is committed.

SQL nondeterminism (`LIMIT n` without a total order, ties under `ORDER BY`, id generation) is not
resolved here: each operation carries the implementation's choice as an *observation*, the model
checks that the observation is *allowed* and applies it.  An observation that is not allowed ends
the action with `Err.badObs` — a correspondence failure, not a behaviour.
-/
import Mmmbbb.Model.Basic
import Mmmbbb.Extracted
import Mmmbbb.Model.FilterSyntax
import Mmmbbb.Model.Backoff
namespace Mmmbbb

/-- outcome of a committed transaction -/
structure TxOut (α : Type) where
  db    : Db
  /-- subscriptions whose publish-waiters are woken by the commit hooks -/
  wakes : List Id
  val   : α
deriving Repr


def badObs {α} (why : String) : Except Err α := .error (.badObs why)

def dedup : List Id → List Id
  | [] => []
  | x :: r => if r.contains x then dedup r else x :: dedup r

theorem mem_dedup {x : Id} : ∀ {l : List Id}, x ∈ l → x ∈ dedup l
  | [], h => by cases h
  | y :: r, h => by
    unfold dedup
    rcases List.mem_cons.mp h with rfl | h
    · split
      · rename_i hc; exact mem_dedup (List.contains_iff_mem.mp hc)
      · exact List.mem_cons_self
    · split
      · exact mem_dedup h
      · exact List.mem_cons_of_mem _ (mem_dedup h)

/-- look every id up; `none` if one is unknown -/
def lookupAll {α} (f : Id → Option α) : List Id → Option (List α)
  | [] => some []
  | i :: r =>
    match f i, lookupAll f r with
    | some a, some rest => some (a :: rest)
    | _, _ => none

def nodupIds : List Id → Bool
  | [] => true
  | x :: r => !r.contains x && nodupIds r

/-! ### enqueueing (`deliverToSubscription`) -/

/-- does subscription `s` take a message with these attributes?  A stored filter that does not
    parse or evaluate drops the message (the Go code logs and skips). -/
def subAccepts (s : Sub) (attrs : StrMap) : Bool :=
  match s.filter with
  | none => true
  | some f =>
    if f == "" then true
    else match Filter.parse f with
      | .ok c => c.eval attrs
      | _ => false

/-- rows the predecessor query of `deliverToSubscription` ranges over: deliveries of `s`, not
    expired, whose message carries the same order key -/
def predCands (db : Db) (s : Sub) (m : Msg) (now : Time) : List Delivery :=
  db.dels.filter fun d =>
    d.subId == s.id && decide (now < d.expiresAt) &&
      match db.msgById d.msgId with
      | some dm => dm.orderKey == m.orderKey
      | none => false

/-- is some row waiting on `d` (its `not_before_id` names `d`)? -/
def hasSucc (db : Db) (d : Delivery) : Bool := db.dels.any fun e => e.notBefore == some d.id

/-- the predecessor query has a second sort key (regenerated from the source): among rows with the
    same publish time, rows nobody waits on come first.  Rows made in one transaction share their
    publish time (several deliveries dead-lettered by one sweep, pull or nack): the newest of those is
    the one at the end of the chain. -/
def tieBreak : Bool := Extracted.predecessorOrder == ["Desc:PublishedAt", "Asc:HasSuccessor"]

def newestIn (db : Db) (cs : List Delivery) (d : Delivery) : Bool :=
  cs.all fun e => decide (e.publishedAt ≤ d.publishedAt) &&
    (!tieBreak || !(e.publishedAt == d.publishedAt) || !hasSucc db d || hasSucc db e)

/-- `ORDER BY published_at DESC, <somebody waits on it> LIMIT 1`: is `nb` an allowed answer? -/
def predChoiceOk (db : Db) (s : Sub) (m : Msg) (now : Time) (nb : Option Id) : Bool :=
  if s.ordered && (match m.orderKey with | some k => k != "" | none => false) then
    let cs := predCands db s m now
    match nb with
    | none => cs.isEmpty
    | some p => cs.any fun d => d.id == p && newestIn db cs d
  else nb.isNone

/-- one delivery row created by `deliverToSubscription`, as observed -/
structure Fwd where
  subId : Id
  newId : Id
  nb    : Option Id
deriving Repr, DecidableEq, Inhabited

def mkDelivery (s : Sub) (m : Msg) (now : Time) (f : Fwd) : Delivery :=
  { id := f.newId, msgId := m.id, subId := s.id, publishedAt := now,
    attemptAt := now + s.deliveryDelay, lastAttemptedAt := none, attempts := 0,
    completedAt := none, expiresAt := now + s.messageTtl, notBefore := f.nb }

/-- rows to insert for message `m` on the subscriptions `subs` (those that accept it) -/
def mkRows (db : Db) (subs : List Sub) (m : Msg) (now : Time) :
    List Fwd → Except Err (List Delivery)
  | [] => .ok []
  | f :: r =>
    match subs.find? (·.id == f.subId) with
    | none => badObs "delivery created on a subscription that is not a live subscriber"
    | some s =>
      if !subAccepts s m.attrs then badObs "delivery created although the filter rejects"
      else if !predChoiceOk db s m now f.nb then badObs "predecessor choice not allowed"
      else
        match mkRows db subs m now r with
        | .error e => .error e
        | .ok rest => .ok (mkDelivery s m now f :: rest)

/-- enqueue `m` on every subscription of `subs` that accepts it (`CreateBulk`) -/
def deliverAll (db : Db) (subs : List Sub) (m : Msg) (now : Time) (fwds : List Fwd) :
    Except Err (Db × List Id) :=
  let expected := (subs.filter (subAccepts · m.attrs)).map (·.id)
  let got := fwds.map (·.subId)
  if !(nodupIds got && got.length == expected.length && got.all expected.contains) then
    badObs "set of receiving subscriptions differs"
  else if !(nodupIds (fwds.map (·.newId)) && (fwds.all fun f => !db.allIds.contains f.newId)) then
    badObs "delivery id not fresh"
  else
    match mkRows db subs m now fwds with
    | .error e => .error e
    | .ok rows => .ok ({ db with dels := db.dels ++ rows }, got)

/-! ### publish -/

structure PubMsg where
  id       : Id
  payload  : String
  plen     : Nat
  attrs    : StrMap
  orderKey : String
  fwds     : List Fwd
deriving Repr, Inhabited

/-- `PublishMessage.Execute` for an already resolved live topic -/
def publishOne (db : Db) (t : Topic) (now : Time) (pm : PubMsg) : Except Err (Db × List Id) :=
  if db.allIds.contains pm.id then badObs "message id not fresh"
  else
    let m : Msg := { id := pm.id, topicId := t.id, payload := pm.payload, plen := pm.plen,
                     attrs := pm.attrs, publishedAt := now,
                     orderKey := if pm.orderKey == "" then none else some pm.orderKey }
    let db1 := { db with msgs := db.msgs ++ [m] }
    deliverAll db1 (db1.liveSubsOf t.id) m now pm.fwds

/-- messages of one `Publish` request, all in one transaction; the harness' driver wrapper ticks
    the clock by `tick` at every message insert, so message `i` is stamped `now + i·tick` -/
def publishLoop (t : Topic) (tick : Int) : Db → Time → List Id → List PubMsg → Except Err (Db × List Id)
  | db, _, wakes, [] => .ok (db, wakes)
  | db, now, wakes, pm :: r =>
    match publishOne db t now pm with
    | .error e => .error e
    | .ok (db', w) => publishLoop t tick db' (now + tick) (wakes ++ w) r

def publish (db : Db) (now : Time) (topicName : String) (tick : Int) (msgs : List PubMsg) :
    Except Err (TxOut (List Id)) :=
  match db.liveTopicByName topicName with
  | none => .error .notFound
  | some t =>
    match publishLoop t tick db now [] msgs with
    | .error e => .error e
    | .ok (db', wakes) => .ok { db := db', wakes := dedup wakes, val := msgs.map (·.id) }

/-! ### dead-lettering (`deadLetterDelivery`) -/

/-- `UPDATE deliveries SET completed_at = now WHERE id = i` -/
def markCompleted (i : Id) (now : Time) (l : List Delivery) : List Delivery :=
  updateWhere (·.id == i) (fun x => { x with completedAt := some now }) l

/-- first half of `deadLetterDelivery`: forward to the live subscriptions of the live dead-letter
    topic (nothing to do when the topic is gone or has no subscriber) -/
def dlForward (db : Db) (d : Delivery) (dlTopicId : Id) (now : Time) (fwds : List Fwd) :
    Except Err (Db × List Id) :=
  match db.topics.find? (fun t => t.id == dlTopicId && t.live) with
  | none => if fwds.isEmpty then .ok (db, []) else badObs "forward to a deleted dead-letter topic"
  | some t =>
    if (db.liveSubsOf t.id).isEmpty then
      if fwds.isEmpty then .ok (db, []) else badObs "forward without dead-letter subscriber"
    else
      match db.msgById d.msgId with
      | none => .error .notFound
      | some m => deliverAll db (db.liveSubsOf t.id) m now fwds

def deadLetter (db : Db) (d : Delivery) (dlTopicId : Id) (now : Time) (fwds : List Fwd) :
    Except Err (Db × List Id) :=
  match dlForward db d dlTopicId now fwds with
  | .error e => .error e
  | .ok (db1, w) =>
    if (db1.delById d.id).isNone then .error .notFound
    else .ok ({ db1 with dels := markCompleted d.id now db1.dels }, w ++ [d.subId])

/-! ### pull (`GetSubscriptionMessages`) -/

structure PullObs where
  /-- candidate ids in the order the `ORDER BY attempt_at LIMIT max` query returned them -/
  cands  : List Id
  /-- for every delivered id the delay (nominal + jitter) the implementation chose -/
  delays : List (Id × Int)
  /-- for every dead-lettered id the rows its forward created -/
  fwds   : List (Id × List Fwd)
deriving Repr, Inhabited

structure PullRes where
  /-- delivered (id, attempt number) in response order -/
  delivered : List (Id × Nat)
  numDL     : Nat
deriving Repr, DecidableEq, Inhabited

def sortedByAttemptAt : List Delivery → Bool
  | [] => true
  | [_] => true
  | a :: b :: r => decide (a.attemptAt ≤ b.attemptAt) && sortedByAttemptAt (b :: r)

/-- is `cands` (the rows the observed ids name) an allowed answer of
    `… WHERE eligible ORDER BY attempt_at LIMIT max`?  `elig` is the list of all eligible rows. -/
def candsOk (isElig : Delivery → Bool) (elig cands : List Delivery) (max : Nat) : Bool :=
  cands.length == min max elig.length &&
  nodupIds (cands.map (·.id)) &&
  cands.all isElig &&
  sortedByAttemptAt cands &&
  elig.all (fun e => cands.any (·.id == e.id) || cands.all (fun c => decide (c.attemptAt ≤ e.attemptAt)))

structure PullAcc where
  db        : Db
  bytes     : Nat
  delivered : List (Delivery × Int)
  numDL     : Nat
  wakes     : List Id

/-- the dead-letter topic a delivery has to be moved to when its attempts are used up
    (`HasFullDeadLetterConfig && attempts >= max_delivery_attempts`) -/
def Sub.dlTarget (s : Sub) (d : Delivery) : Option Id :=
  match s.maxAttempts, s.dlTopicId with
  | some n, some dlt => if 0 < n ∧ n ≤ (d.attempts : Int) then some dlt else none
  | _, _ => none

def fwdsFor (fwds : List (Id × List Fwd)) (i : Id) : List Fwd :=
  match fwds.find? (·.1 == i) with
  | some (_, l) => l
  | none => []

/-- the retry delay the implementation chose for delivery `i`, checked against the back-off
    window for `n` attempts -/
def obsDelay (delays : List (Id × Int)) (i : Id) (s : Sub) (n : Nat) : Except Err Int :=
  match delays.find? (·.1 == i) with
  | none => badObs "no delay observed for a delivery"
  | some (_, δ) =>
    if Backoff.delayOk (Backoff.nominal s.minBackoff s.maxBackoff n) δ then .ok δ
    else badObs "retry delay outside the allowed window"

/-- the loop of `applyResults` over the candidates -/
def pullLoop (s : Sub) (now : Time) (maxBytes : Nat) (strict : Bool) (obs : PullObs) :
    Nat → List Delivery → PullAcc → Except Err PullAcc
  | _, [], acc => .ok acc
  | i, d :: r, acc =>
    match acc.db.msgById d.msgId with
    | none => .error .notFound
    | some m =>
      if (strict || decide (0 < i)) && decide (maxBytes < acc.bytes + m.plen) then
        pullLoop s now maxBytes strict obs (i+1) r acc
      else
        match s.dlTarget d with
        | some dlt =>
          match deadLetter acc.db d dlt now (fwdsFor obs.fwds d.id) with
          | .error e => .error e
          | .ok (db', w) =>
            pullLoop s now maxBytes strict obs (i+1) r
              { acc with db := db', numDL := acc.numDL + 1, wakes := acc.wakes ++ w }
        | none =>
          match obsDelay obs.delays d.id s (d.attempts + 1) with
          | .error e => .error e
          | .ok δ =>
            pullLoop s now maxBytes strict obs (i+1) r
              { acc with bytes := acc.bytes + m.plen, delivered := acc.delivered ++ [(d, δ)] }

def refreshExpiry (db : Db) (s : Sub) (now : Time) : Db :=
  { db with subs := updateWhere (·.id == s.id) (fun x => { x with expiresAt := now + s.ttl }) db.subs }

/-- lease bookkeeping of a delivered row -/
def leaseRow (now : Time) (δ : Int) (d : Delivery) : Delivery :=
  { d with lastAttemptedAt := some now, attempts := d.attempts + 1, attemptAt := now + δ }

def applyLease (now : Time) (delivered : List (Delivery × Int)) (d : Delivery) : Delivery :=
  match delivered.find? (·.1.id == d.id) with
  | some (_, δ) => leaseRow now δ d
  | none => d

def applyLeases (now : Time) (delivered : List (Delivery × Int)) (dels : List Delivery) : List Delivery :=
  dels.map (applyLease now delivered)

/-- the delivery transaction of a pull whose candidate list is not empty -/
def pullDeliver (db0 : Db) (s : Sub) (now : Time) (maxBytes : Nat) (strict : Bool) (obs : PullObs)
    (cands : List Delivery) : Except Err (TxOut PullRes) :=
  match pullLoop s now maxBytes strict obs 0 cands
      { db := refreshExpiry db0 s now, bytes := 0, delivered := [], numDL := 0, wakes := [] } with
  | .error e => .error e
  | .ok acc =>
    .ok { db := { acc.db with dels := applyLeases now acc.delivered acc.db.dels },
          wakes := dedup acc.wakes,
          val := { delivered := acc.delivered.map (fun (d, _) => (d.id, d.attempts + 1)),
                   numDL := acc.numDL } }

/-- A pull that returns at once (`MaxWait` = `wait`): the subscription check with its expiry
    refresh, the delivery transaction, and — when nothing is deliverable — the wait of `wait` ns
    followed by the final expiry refresh.  Returns the new clock as well. -/
def pull (db : Db) (now : Time) (subName : String) (max maxBytes : Nat) (strict : Bool)
    (wait : Int) (obs : PullObs) : Except Err (TxOut PullRes × Time) :=
  match db.liveSubByName subName with
  | none => .error .notFound
  | some s =>
    let db0 := refreshExpiry db s now
    match lookupAll db0.delById obs.cands with
    | none => badObs "candidate id unknown"
    | some cands =>
      if !candsOk (db0.eligible s now) (db0.dels.filter (db0.eligible s now)) cands max then
        badObs "candidate list not an allowed query answer"
      else if cands.isEmpty then
        -- nothing deliverable: wait for the timeout, then `applyResults(nil)` refreshes the expiry
        .ok ({ db := refreshExpiry db0 s (now + wait), wakes := [],
               val := { delivered := [], numDL := 0 } }, now + wait)
      else
        match pullDeliver db0 s now maxBytes strict obs cands with
        | .error e => .error e
        | .ok o => .ok (o, now)

/-! ### ack / nack / delay -/

def ack (db : Db) (now : Time) (ids : List Id) : Except Err (TxOut Nat) :=
  let p : Delivery → Bool := fun d => ids.contains d.id && d.completedAt.isNone
  .ok { db := { db with dels := updateWhere p (fun d => { d with completedAt := some now }) db.dels },
        wakes := dedup ((db.dels.filter p).map (·.subId)),
        val := countWhere p db.dels }

def insertById (d : Delivery) : List Delivery → List Delivery
  | [] => [d]
  | e :: r => if d.id ≤ e.id then d :: e :: r else e :: insertById d r

def sortById (l : List Delivery) : List Delivery := l.foldr insertById []

structure NackAcc where
  db    : Db
  numDL : Nat
  wakes : List Id

def setAttemptAt (i : Id) (t : Time) (l : List Delivery) : List Delivery :=
  updateWhere (·.id == i) (fun x => { x with attemptAt := t }) l

def nackLoop (now : Time) (delays : List (Id × Int)) (fwds : List (Id × List Fwd)) :
    List Delivery → NackAcc → Except Err NackAcc
  | [], acc => .ok acc
  | d :: r, acc =>
    match acc.db.subById d.subId with
    | none => .error .notFound
    | some s =>
      match s.dlTarget d with
      | some dlt =>
        match deadLetter acc.db d dlt now (fwdsFor fwds d.id) with
        | .error e => .error e
        | .ok (db', w) =>
          nackLoop now delays fwds r { db := db', numDL := acc.numDL + 1, wakes := acc.wakes ++ w }
      | none =>
        match obsDelay delays d.id s d.attempts with
        | .error e => .error e
        | .ok δ =>
          nackLoop now delays fwds r
            { acc with db := { acc.db with dels := setAttemptAt d.id (now + δ) acc.db.dels } }

/-- `NackDeliveries`: result = (numNacked, numDeadLettered) -/
def nack (db : Db) (now : Time) (ids : List Id) (delays : List (Id × Int))
    (fwds : List (Id × List Fwd)) : Except Err (TxOut (Nat × Nat)) :=
  let rows := sortById (db.dels.filter fun d => ids.contains d.id && d.isOpen now)
  match nackLoop now delays fwds rows { db := db, numDL := 0, wakes := [] } with
  | .error e => .error e
  | .ok acc => .ok { db := acc.db, wakes := dedup acc.wakes, val := (rows.length, acc.numDL) }

/-- `DelayDeliveries` (ModifyAckDeadline): positive delays only postpone, a non-positive delay
    makes the rows due at `now + Δ` and wakes their subscriptions -/
def delay (db : Db) (now : Time) (ids : List Id) (Δ : Int) : Except Err (TxOut Nat) :=
  let base : Delivery → Bool := fun d => ids.contains d.id && d.completedAt.isNone
  let target := now + Δ
  if Δ ≤ 0 then
    .ok { db := { db with dels := updateWhere base (fun d => { d with attemptAt := target }) db.dels },
          wakes := dedup ((db.dels.filter base).map (·.subId)),
          val := countWhere base db.dels }
  else
    let p : Delivery → Bool := fun d => base d && decide (d.attemptAt < target)
    .ok { db := { db with dels := updateWhere p (fun d => { d with attemptAt := target }) db.dels },
          wakes := [],
          val := countWhere p db.dels }

/-! ### dead-letter sweep (`DeadLetterDeliveries`) -/

def sweepCand (db : Db) (now : Time) (d : Delivery) : Bool :=
  d.isOpen now && decide (d.attemptAt ≤ now) &&
    match db.subById d.subId with
    | none => false
    | some s =>
      s.live &&
        match s.maxAttempts, s.dlTopicId with
        | some n, some _ => decide (0 < n) && decide (n ≤ (d.attempts : Int))
        | _, _ => false

/-- is `victims` an allowed answer of `SELECT id … WHERE p LIMIT max`?  Every victim must name
    (by primary-key lookup) a row satisfying `p`; `rows` is the whole table (for the count). -/
def limitOk {α} (rows : List α) (lookup : Id → Option α) (p : α → Bool) (victims : List Id) (max : Nat) : Bool :=
  nodupIds victims && victims.length == min max (rows.filter p).length &&
    victims.all (fun v => match lookup v with | some r => p r | none => false)

def sweepLoop (now : Time) (fwds : List (Id × List Fwd)) :
    List Delivery → Db → List Id → Except Err (Db × List Id)
  | [], db, wakes => .ok (db, wakes)
  | d :: r, db, wakes =>
    match (db.subById d.subId).bind (·.dlTopicId) with
    | none => .error .notFound
    | some dlt =>
      match deadLetter db d dlt now (fwdsFor fwds d.id) with
      | .error e => .error e
      | .ok (db', w) => sweepLoop now fwds r db' (wakes ++ w)

def dlSweep (db : Db) (now : Time) (max : Nat) (victims : List Id) (fwds : List (Id × List Fwd)) :
    Except Err (TxOut Nat) :=
  if !limitOk db.dels db.delById (sweepCand db now) victims max then badObs "sweep victims not allowed"
  else
    match lookupAll db.delById victims with
    | none => badObs "sweep victim unknown"
    | some rows =>
      match sweepLoop now fwds rows db [] with
      | .error e => .error e
      | .ok (db', wakes) => .ok { db := db', wakes := dedup wakes, val := rows.length }

/-! ### seek, snapshots -/

/-- `SeekSubscriptionToTime`: result = (numAcked, numDeAcked) -/
def seekTime (db : Db) (now : Time) (subName : String) (T : Time) : Except Err (TxOut (Nat × Nat)) :=
  match db.liveSubByName subName with
  | none => .error .notFound
  | some s =>
    let pAck : Delivery → Bool := fun d =>
      d.subId == s.id && decide (now ≤ d.expiresAt) && decide (d.publishedAt ≤ T) && d.completedAt.isNone
    let dels1 := updateWhere pAck (fun d => { d with completedAt := some now }) db.dels
    let pDe : Delivery → Bool := fun d =>
      d.subId == s.id && decide (now ≤ d.expiresAt) && decide (T < d.publishedAt) && d.completedAt.isSome
    let dels2 := updateWhere pDe
      (fun d => { d with completedAt := none, expiresAt := now + s.messageTtl, attemptAt := now }) dels1
    let na := countWhere pAck db.dels
    let nd := countWhere pDe dels1
    .ok { db := { db with dels := dels2 }, wakes := if na != 0 || nd != 0 then [s.id] else [],
          val := (na, nd) }

def seekSnap (db : Db) (now : Time) (subName snapName : String) : Except Err (TxOut (Nat × Nat)) :=
  match db.liveSubByName subName with
  | none => .error .notFound
  | some s =>
    match db.snapByName snapName with
    | none => .error .notFound
    | some sn =>
      let p1 : Delivery → Bool := fun d =>
        d.subId == s.id && decide (now ≤ d.expiresAt) && decide (d.publishedAt < sn.ackedBefore) &&
          d.completedAt.isNone
      let dels1 := updateWhere p1 (fun d => { d with completedAt := some now }) db.dels
      let p2 : Delivery → Bool := fun d =>
        d.subId == s.id && decide (now ≤ d.expiresAt) && sn.ackedIds.contains d.msgId &&
          d.completedAt.isNone
      let dels2 := if sn.ackedIds.isEmpty then dels1
                   else updateWhere p2 (fun d => { d with completedAt := some now }) dels1
      let n2 := if sn.ackedIds.isEmpty then 0 else countWhere p2 dels1
      let p3 : Delivery → Bool := fun d =>
        d.subId == s.id && decide (sn.ackedBefore ≤ d.publishedAt) && !sn.ackedIds.contains d.msgId &&
          d.completedAt.isSome
      let dels3 := updateWhere p3
        (fun d => { d with completedAt := none, expiresAt := now + s.messageTtl, attemptAt := now }) dels2
      let na := countWhere p1 db.dels + n2
      let nd := countWhere p3 dels2
      .ok { db := { db with dels := dels3 }, wakes := if na != 0 || nd != 0 then [s.id] else [],
            val := (na, nd) }

/-- minimum `published_at` of a non-empty list -/
def minPub : List Delivery → Option Time
  | [] => none
  | d :: r => match minPub r with
    | none => some d.publishedAt
    | some t => some (if d.publishedAt ≤ t then d.publishedAt else t)

def createSnapshot (db : Db) (now : Time) (name subName : String) (labels : StrMap) (newId : Id) :
    Except Err (TxOut Id) :=
  if (db.snapByName name).isSome then .error .exists
  else match db.liveSubByName subName with
  | none => .error .notFound
  | some s =>
    if db.allIds.contains newId then badObs "snapshot id not fresh"
    else
      let opens := db.dels.filter fun d => d.subId == s.id && d.isOpen now
      let (before, ids) : Time × List Id :=
        match minPub opens with
        | none => (now, [])
        | some t0 =>
          -- message ids of the completed deliveries of this subscription at or after t0
          (t0, (db.dels.filter fun d =>
              d.subId == s.id && decide (t0 ≤ d.publishedAt) && d.completedAt.isSome).map (·.msgId))
      let sn : Snapshot := { id := newId, topicId := s.topicId, name := name, createdAt := now,
                             expiresAt := now + Extracted.defaultSnapshotTTL, labels := labels,
                             ackedBefore := before, ackedIds := ids }
      .ok { db := { db with snaps := db.snaps ++ [sn] }, wakes := [], val := newId }

def deleteSnapshot (db : Db) (name : String) : Except Err (TxOut Unit) :=
  if (db.snapByName name).isNone then .error .notFound
  else .ok { db := { db with snaps := db.snaps.filter (·.name != name) }, wakes := [], val := () }

/-! ### topics and subscriptions -/

def createTopic (db : Db) (now : Time) (name : String) (labels : StrMap) (newId : Id) : Except Err (TxOut Id) :=
  if (db.liveTopicByName name).isSome then .error .exists
  else if db.allIds.contains newId then badObs "topic id not fresh"
  else
    .ok { db := { db with topics := db.topics ++
            [{ id := newId, name := name, createdAt := now, deletedAt := none, labels := labels }] },
          wakes := [], val := newId }

def deleteTopic (db : Db) (now : Time) (name : String) : Except Err (TxOut Nat) :=
  let p : Topic → Bool := fun t => t.name == name && t.live
  let ids := (db.topics.filter p).map (·.id)
  if ids.isEmpty then .error .notFound
  else
    .ok { db := { db with topics := updateWhere p (fun t => { t with deletedAt := some now }) db.topics,
                          snaps := db.snaps.filter fun sn => !ids.contains sn.topicId },
          wakes := [], val := ids.length }

structure CreateSubParams where
  name        : String
  topicName   : String
  ttl         : Int
  messageTtl  : Int
  ordered     : Bool
  labels      : StrMap
  pushEndpoint : String
  minBackoff  : Int
  maxBackoff  : Int
  filter      : String
  maxAttempts : Int
  dlTopic     : String
deriving Repr, Inhabited

/-- a filter string `CreateSubscription` / `UpdateSubscription` accept: empty, or parsing -/
def filterOk (f : String) : Bool :=
  f == "" || (match Filter.parse f with | .ok _ => true | _ => false)

/-- the dead-letter topic named in the request, if any, must be live -/
def resolveDl (db : Db) (name : String) : Except Err (Option Id) :=
  if name == "" then .ok none
  else match db.liveTopicByName name with
    | none => .error .notFound
    | some dt => .ok (some dt.id)

/-- the row `CreateSubscription` inserts -/
def mkSub (now : Time) (p : CreateSubParams) (newId : Id) (topicId : Id) (dlId : Option Id) : Sub :=
  { id := newId, topicId := topicId, name := p.name, createdAt := now, expiresAt := now + p.ttl,
    deletedAt := none, ttl := p.ttl, messageTtl := p.messageTtl, ordered := p.ordered,
    labels := p.labels,
    minBackoff := if 0 < p.minBackoff then some p.minBackoff else none,
    maxBackoff := if 0 < p.maxBackoff then some p.maxBackoff else none,
    pushEndpoint := if p.pushEndpoint == "" then none else some p.pushEndpoint,
    filter := if p.filter == "" then none else some p.filter,
    maxAttempts := if p.maxAttempts != 0 then some p.maxAttempts else none,
    dlTopicId := dlId, deliveryDelay := 0 }

/-- `CreateSubscription.Execute` (constructor preconditions are the API layer's business) -/
def createSub (db : Db) (now : Time) (p : CreateSubParams) (newId : Id) : Except Err (TxOut Id) :=
  if (db.liveSubByName p.name).isSome then .error .exists
  else match db.liveTopicByName p.topicName with
  | none => .error .notFound
  | some t =>
    if !filterOk p.filter then .error (.invalid "filter")
    else match resolveDl db p.dlTopic with
      | .error e => .error e
      | .ok dlId =>
        if db.allIds.contains newId then badObs "subscription id not fresh"
        else
          .ok { db := { db with subs := db.subs ++ [mkSub now p newId t.id dlId] },
                wakes := [newId], val := newId }

theorem createSub_ok {db : Db} {now : Time} {p : CreateSubParams} {newId : Id} {o : TxOut Id}
    (h : createSub db now p newId = .ok o) :
    ∃ t dlId, db.liveTopicByName p.topicName = some t ∧ filterOk p.filter = true ∧
      (db.liveSubByName p.name).isSome = false ∧ db.allIds.contains newId = false ∧
      o.db = { db with subs := db.subs ++ [mkSub now p newId t.id dlId] } ∧ o.wakes = [newId] := by
  unfold createSub at h
  split at h
  · cases h
  rename_i hex
  split at h
  · cases h
  rename_i t ht
  split at h
  · cases h
  rename_i hf
  split at h
  · cases h
  rename_i dlId _
  split at h
  · cases h
  rename_i hfresh
  cases h
  exact ⟨t, dlId, ht, by simpa using hf, by simpa using hex, by simpa using hfresh, rfl, rfl⟩

def deleteSub (db : Db) (now : Time) (name : String) : Except Err (TxOut Nat) :=
  let p : Sub → Bool := fun s => s.name == name && s.live
  let ids := (db.subs.filter p).map (·.id)
  if ids.isEmpty then .error .notFound
  else
    .ok { db := { db with subs := updateWhere p (fun s => { s with deletedAt := some now }) db.subs },
          wakes := ids, val := ids.length }

/-- `controllers/delay-injector.go` `PutDelay` / `DeleteDelay`: set the delivery delay of a live
    subscription -/
def setDelay (db : Db) (name : String) (d : Int) : Except Err (TxOut Unit) :=
  let p : Sub → Bool := fun s => s.name == name && s.live
  if !db.subs.any p then .error .notFound
  else
    let subs' := updateWhere p (fun s => { s with deliveryDelay := d }) db.subs
    .ok { db := { db with subs := subs' }, wakes := [], val := () }

/-! ### background jobs -/

/-- `DeleteExpiredSubscriptions` -/
def expireSubs (db : Db) (now : Time) (max : Nat) (victims : List Id) : Except Err (TxOut Nat) :=
  let cand : Sub → Bool := fun s => decide (s.expiresAt < now) && s.live
  if !limitOk db.subs db.subById cand victims max then badObs "expiry victims not allowed"
  else
    let subs' := updateWhere (fun s => victims.contains s.id) (fun s => { s with deletedAt := some now }) db.subs
    .ok { db := { db with subs := subs' }, wakes := victims, val := victims.length }

/-- `DELETE FROM deliveries WHERE id IN ids`: successors' `not_before_id` is `SET NULL` -/
def deleteDeliveries (db : Db) (ids : List Id) : Db :=
  { db with dels := (db.dels.filter fun d => !ids.contains d.id).map fun d =>
      match d.notBefore with
      | some p => if ids.contains p then { d with notBefore := none } else d
      | none => d }

def pruneCompletedDeliveries (db : Db) (now : Time) (minAge : Int) (max : Nat) (victims : List Id) :
    Except Err (TxOut Nat) :=
  let cand : Delivery → Bool := fun d =>
    match d.completedAt with | some c => decide (c ≤ now - minAge) | none => false
  if !limitOk db.dels db.delById cand victims max then badObs "prune victims not allowed"
  else .ok { db := deleteDeliveries db victims, wakes := [], val := victims.length }

def pruneExpiredDeliveries (db : Db) (now : Time) (max : Nat) (victims : List Id) : Except Err (TxOut Nat) :=
  let cand : Delivery → Bool := fun d => decide (d.expiresAt < now)
  if !limitOk db.dels db.delById cand victims max then badObs "prune victims not allowed"
  else
    let ordered := (db.subs.filter fun s =>
      s.ordered && db.dels.any fun d => d.subId == s.id && victims.contains d.id).map (·.id)
    .ok { db := deleteDeliveries db victims, wakes := ordered, val := victims.length }

def pruneCompletedMessages (db : Db) (now : Time) (minAge : Int) (max : Nat) (victims : List Id) :
    Except Err (TxOut Nat) :=
  let cand : Msg → Bool := fun m =>
    decide (m.publishedAt ≤ now - minAge) && !db.dels.any (·.msgId == m.id)
  if !limitOk db.msgs db.msgById cand victims max then badObs "prune victims not allowed"
  else .ok { db := { db with msgs := db.msgs.filter fun m => !victims.contains m.id },
             wakes := [], val := victims.length }

def pruneDeletedSubDeliveries (db : Db) (now : Time) (minAge : Int) (max : Nat) (victims : List Id) :
    Except Err (TxOut Nat) :=
  let cand : Delivery → Bool := fun d =>
    match (db.subById d.subId).bind (·.deletedAt) with
    | some t => decide (t ≤ now - minAge)
    | none => false
  if !limitOk db.dels db.delById cand victims max then badObs "prune victims not allowed"
  else .ok { db := deleteDeliveries db victims, wakes := [], val := victims.length }

def pruneDeletedSubs (db : Db) (now : Time) (minAge : Int) (max : Nat) (victims : List Id) : Except Err (TxOut Nat) :=
  let cand : Sub → Bool := fun s =>
    (match s.deletedAt with | some t => decide (t ≤ now - minAge) | none => false) &&
      !db.dels.any (·.subId == s.id)
  if !limitOk db.subs db.subById cand victims max then badObs "prune victims not allowed"
  else .ok { db := { db with subs := db.subs.filter fun s => !victims.contains s.id },
             wakes := [], val := victims.length }

/-- `PruneDeletedTopics`: the `DELETE` fails as a whole when a message or snapshot still references
    a victim (`NO ACTION`); a topic that is still some subscription's dead-letter topic is not a
    candidate (`dead_letter_topic_id` is `ON DELETE SET NULL`: deleting it would take the policy away) -/
def pruneDeletedTopics (db : Db) (now : Time) (minAge : Int) (max : Nat) (victims : List Id) : Except Err (TxOut Nat) :=
  let cand : Topic → Bool := fun t =>
    (match t.deletedAt with | some d => decide (d ≤ now - minAge) | none => false) &&
      !db.subs.any (·.topicId == t.id) && !db.subs.any (·.dlTopicId == some t.id)
  if !limitOk db.topics db.topicById cand victims max then badObs "prune victims not allowed"
  else if db.msgs.any (fun m => victims.contains m.topicId) ||
          db.snaps.any (fun sn => victims.contains sn.topicId) then .error .fk
  else
    let subs' := db.subs.map fun s =>
      match s.dlTopicId with
      | some d => if victims.contains d then { s with dlTopicId := none } else s
      | none => s
    let topics' := db.topics.filter fun t => !victims.contains t.id
    .ok { db := { db with topics := topics', subs := subs' }, wakes := [], val := victims.length }

end Mmmbbb

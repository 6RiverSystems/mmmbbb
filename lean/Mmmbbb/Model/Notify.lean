/-
The wake-up protocol between waiting pulls and committing writers (actions/notify.go,
actions/get-subscription-messages.go:execute), at the granularity of transaction boundaries.

A *waiter* is a Pull (or the fetch loop of a StreamingPull) on one subscription:

    pc 0  not started
    pc 1  subscription checked (first transaction committed)
    pc 2  awaiter registered, query transaction ahead
    pc 3  query transaction committed (`found` says whether it returned messages)
    pc 4  blocked in `select` on its awaiter channel
    pc 5  returned to the caller

A *writer* is any committing operation: at `commit` the messages it makes deliverable become
visible (`adds`), at `wake` its commit hook calls `WakePublishListeners(subs…)`.

The registry `open` holds the registered, not yet closed channels.  Two facts about the source are
parameters of the model, so that the theorems can be stated for what the source says now
(`Cfg.ofSource` reads them from `Extracted`) and refuted for the alternatives:

* `wakeContinue`  — `WakePublishListeners` *skips* a subscription without waiters (`continue`) rather
                    than stopping at it (`return`);
* `registerFirst` — the pull loop registers its awaiter *before* it queries.
-/
import Mmmbbb.Extracted
namespace Mmmbbb.Notify

structure Cfg where
  wakeContinue  : Bool
  registerFirst : Bool
deriving DecidableEq, Repr

structure Waiter where
  sub   : Nat
  max   : Nat := 1000
  pc    : Nat := 0
  chan  : Option Nat := none
  found : Bool := false
  got   : Nat := 0
deriving DecidableEq, Repr, Inhabited

structure Writer where
  /-- (subscription, number of messages made deliverable) at commit -/
  adds  : List (Nat × Nat) := []
  /-- argument list of WakePublishListeners, in order -/
  wakes : List Nat := []
  pc    : Nat := 0
deriving DecidableEq, Repr, Inhabited

structure Sys where
  waiter : Nat → Waiter
  writer : Nat → Writer
  /-- deliverable messages per subscription -/
  avail  : Nat → Nat
  /-- (channel, subscription): registered and not closed -/
  «open» : List (Nat × Nat) := []
  /-- subscriptions that have a (possibly empty) waiter set in the registry: created by the first
      registration, removed by the next wake-up (a cancelled awaiter leaves its empty set behind) -/
  ents   : List Nat := []
  next   : Nat := 0

def upd {α} (f : Nat → α) (i : Nat) (v : α) : Nat → α := fun j => if j = i then v else f j

@[simp] theorem upd_same {α} (f : Nat → α) (i : Nat) (v : α) : upd f i v i = v := if_pos rfl
theorem upd_other {α} (f : Nat → α) (i j : Nat) (v : α) (h : j ≠ i) : upd f i v j = f j := if_neg h

theorem upd_proj {α β} (g : α → β) (f : Nat → α) (i : Nat) (v : α) (hv : g v = g (f i)) (j : Nat) :
    g (upd f i v j) = g (f j) := by
  unfold upd
  split
  · next e => rw [hv, e]
  · rfl

def addsFor : List (Nat × Nat) → Nat → Nat
  | [], _ => 0
  | (s, k) :: rest, x => (if s = x then k else 0) + addsFor rest x

def chanOpen (op : List (Nat × Nat)) (c : Option Nat) : Bool :=
  match c with
  | some c => op.any (fun p => p.1 == c)
  | none => false

/-- CancelPublishAwaiter: remove the channel (if still registered) without closing it -/
def cancel (op : List (Nat × Nat)) (c : Option Nat) : List (Nat × Nat) :=
  match c with
  | some c => op.filter (fun p => p.1 != c)
  | none => op

/-- `CancelPublishAwaiter(old); pubAwaiter = PublishAwaiter(sub)` -/
def register (σ : Sys) (i : Nat) : Sys :=
  let w := σ.waiter i
  { σ with «open» := cancel σ.open w.chan ++ [(σ.next, w.sub)], next := σ.next + 1, ents := w.sub :: σ.ents,
           waiter := upd σ.waiter i { w with chan := some σ.next } }

/-- WakePublishListeners(subs…): for each listed subscription that has a waiter set, closes and
    removes every channel and drops the set; what happens at a subscription *without* a set is the
    `wakeContinue` parameter. -/
def wakeAll (cont : Bool) : List (Nat × Nat) → List Nat → List Nat → List (Nat × Nat) × List Nat
  | op, ents, [] => (op, ents)
  | op, ents, s :: rest =>
    if s ∈ ents then wakeAll cont (op.filter (fun p => p.2 != s)) (ents.filter (fun e => e != s)) rest
    else if cont then wakeAll cont op ents rest
    else (op, ents)

def setW (σ : Sys) (i : Nat) (w : Waiter) : Sys := { σ with waiter := upd σ.waiter i w }
def setX (σ : Sys) (j : Nat) (x : Writer) : Sys := { σ with writer := upd σ.writer j x }
def setOpen (σ : Sys) (op : List (Nat × Nat)) : Sys := { σ with «open» := op }
def setAvail (σ : Sys) (a : Nat → Nat) : Sys := { σ with avail := a }
def setEnts (σ : Sys) (e : List Nat) : Sys := { σ with ents := e }

/-- back to the top of the RETRY loop -/
def reloop (cfg : Cfg) (σ : Sys) (i : Nat) : Sys :=
  let σ' := if cfg.registerFirst then register σ i else σ
  setW σ' i { σ'.waiter i with pc := 2 }

def waiterStep (cfg : Cfg) (σ : Sys) (i : Nat) : Sys :=
  let w := σ.waiter i
  match w.pc with
  | 0 => setW σ i { w with pc := 1 }
  | 1 => reloop cfg σ i
  | 2 =>
    -- the query transaction: takes up to `max` of what is deliverable
    let a := σ.avail w.sub
    let k := if a ≤ w.max then a else w.max
    setW (setAvail σ (upd σ.avail w.sub (a - k))) i { w with pc := 3, found := decide (0 < a), got := k }
  | 3 =>
    if w.found then
      -- results: return; the deferred CancelPublishAwaiter runs
      setW (setOpen σ (cancel σ.open w.chan)) i { w with pc := 5 }
    else if cfg.registerFirst then
      if chanOpen σ.open w.chan then setW σ i { w with pc := 4 } else reloop cfg σ i
    else
      -- the alternative order: the awaiter is taken only now, after the query
      setW (register σ i) i { (register σ i).waiter i with pc := 4 }
  | 4 => if chanOpen σ.open w.chan then σ else reloop cfg σ i
  | _ => σ

def writerStep (cfg : Cfg) (σ : Sys) (j : Nat) : Sys :=
  let x := σ.writer j
  match x.pc with
  | 0 => setX (setAvail σ (fun s => σ.avail s + addsFor x.adds s)) j { x with pc := 1 }
  | 1 =>
    let r := wakeAll cfg.wakeContinue σ.open σ.ents x.wakes
    setX (setEnts (setOpen σ r.1) r.2) j { x with pc := 2 }
  | _ => σ

/-- a schedule entry: which process takes its next step -/
inductive Proc where
  | waiter (i : Nat)
  | writer (j : Nat)
deriving DecidableEq, Repr

def step (cfg : Cfg) (σ : Sys) : Proc → Sys
  | .waiter i => waiterStep cfg σ i
  | .writer j => writerStep cfg σ j

def run (cfg : Cfg) (σ : Sys) : List Proc → Sys
  | [] => σ
  | p :: ps => run cfg (step cfg σ p) ps

/-- all processes at their start, nothing registered -/
def init (subs : Nat → Nat) (maxes : Nat → Nat) (writers : Nat → List (Nat × Nat) × List Nat) (avail : Nat → Nat) : Sys :=
  { waiter := fun i => { sub := subs i, max := maxes i },
    writer := fun j => { adds := (writers j).1, wakes := (writers j).2 },
    avail := avail }

/-- the configuration the source has now -/
def Cfg.ofSource : Cfg :=
  { wakeContinue := Extracted.wakeNilBranch == "continue",
    registerFirst := Extracted.pullRegistersBeforeQuery }

/-- number of registered channels of a subscription (what `PubWaiterCountsForVerif` reports) -/
def regCount (σ : Sys) (s : Nat) : Nat := (σ.open.filter (fun p => p.2 == s)).length

end Mmmbbb.Notify

/-
Induction principles for the three loops that dead-letter (`pullLoop`, `nackLoop`, `sweepLoop`), for
`mkRows` and for the loop of a publish: what one round does, stated once, so that an invariant of a
loop is proved by saying what it needs of a skipped, a dead-lettered and a leased / rescheduled row
(of one forward, of one published message).
-/
import Mmmbbb.Model.Actions
import Mmmbbb.Proofs.Kit
namespace Mmmbbb

/-- `P rest acc`: the invariant, before the rows `rest` are handled -/
theorem pullLoop_ind {s : Sub} {now : Time} {maxBytes : Nat} {strict : Bool} {obs : PullObs}
    (P : List Delivery → PullAcc → Prop)
    (hskip : ∀ {acc m} d r, acc.db.msgById d.msgId = some m → maxBytes < acc.bytes + m.plen → P (d :: r) acc → P r acc)
    (hdl : ∀ {acc m dlt db' w} d r, acc.db.msgById d.msgId = some m → s.dlTarget d = some dlt →
      deadLetter acc.db d dlt now (fwdsFor obs.fwds d.id) = .ok (db', w) → P (d :: r) acc →
      P r { acc with db := db', numDL := acc.numDL + 1, wakes := acc.wakes ++ w })
    (hlease : ∀ {acc m} d r δ, s.dlTarget d = none → acc.db.msgById d.msgId = some m →
      obsDelay obs.delays d.id s (d.attempts + 1) = .ok δ → P (d :: r) acc →
      P r { acc with bytes := acc.bytes + m.plen, delivered := acc.delivered ++ [(d, δ)] }) :
    ∀ {cands : List Delivery} {i : Nat} {acc acc' : PullAcc},
      pullLoop s now maxBytes strict obs i cands acc = .ok acc' → P cands acc → P [] acc'
  | [], _, acc, acc', h, hp => by
    unfold pullLoop at h
    injection h with h; subst h; exact hp
  | d :: r, i, acc, acc', h, hp => by
    unfold pullLoop at h
    split at h
    · cases h
    · rename_i m hm
      split at h
      · rename_i hb
        simp only [Bool.and_eq_true, decide_eq_true_eq] at hb
        exact pullLoop_ind P hskip hdl hlease h (hskip d r hm hb.2 hp)
      · split at h
        · rename_i dlt hdlt
          split at h
          · cases h
          · rename_i db' w hd
            exact pullLoop_ind P hskip hdl hlease h (hdl d r hm hdlt hd hp)
        · rename_i hnone
          split at h
          · cases h
          · rename_i δ hδ
            exact pullLoop_ind P hskip hdl hlease h (hlease d r δ hnone hm hδ hp)

theorem nackLoop_ind {now : Time} {delays : List (Id × Int)} {fwds : List (Id × List Fwd)}
    (P : List Delivery → NackAcc → Prop)
    (hdl : ∀ {acc s dlt db' w} d r, acc.db.subById d.subId = some s → s.dlTarget d = some dlt →
      deadLetter acc.db d dlt now (fwdsFor fwds d.id) = .ok (db', w) → P (d :: r) acc →
      P r { db := db', numDL := acc.numDL + 1, wakes := acc.wakes ++ w })
    (hset : ∀ {acc s} d r δ, acc.db.subById d.subId = some s → s.dlTarget d = none →
      obsDelay delays d.id s d.attempts = .ok δ → P (d :: r) acc →
      P r { acc with db := { acc.db with dels := setAttemptAt d.id (now + δ) acc.db.dels } }) :
    ∀ {rows : List Delivery} {acc acc' : NackAcc},
      nackLoop now delays fwds rows acc = .ok acc' → P rows acc → P [] acc'
  | [], acc, acc', h, hp => by
    unfold nackLoop at h
    injection h with h; subst h; exact hp
  | d :: r, acc, acc', h, hp => by
    unfold nackLoop at h
    split at h
    · cases h
    · rename_i s hs
      split at h
      · rename_i dlt hdlt
        split at h
        · cases h
        · rename_i db' w hd
          exact nackLoop_ind P hdl hset h (hdl d r hs hdlt hd hp)
      · rename_i hnone
        split at h
        · cases h
        · rename_i δ hδ
          exact nackLoop_ind P hdl hset h (hset d r δ hs hnone hδ hp)

theorem sweepLoop_ind {now : Time} {fwds : List (Id × List Fwd)}
    (P : List Delivery → Db → Prop)
    (hdl : ∀ {db dlt db' w} d r, (db.subById d.subId).bind (·.dlTopicId) = some dlt →
      deadLetter db d dlt now (fwdsFor fwds d.id) = .ok (db', w) → P (d :: r) db → P r db') :
    ∀ {rows : List Delivery} {db : Db} {wakes : List Id} {db' : Db} {w : List Id},
      sweepLoop now fwds rows db wakes = .ok (db', w) → P rows db → P [] db'
  | [], db, _, db', _, h, hp => by
    unfold sweepLoop at h
    injection h with h; injection h with e _; subst e; exact hp
  | d :: r, db, _, db', _, h, hp => by
    unfold sweepLoop at h
    split at h
    · cases h
    · rename_i dlt hdlt
      split at h
      · cases h
      · rename_i db1 w1 hd
        exact sweepLoop_ind P hdl h (hdl d r hdlt hd hp)

theorem mkRows_ind {db : Db} {subs : List Sub} {m : Msg} {now : Time} (P : List Fwd → List Delivery → Prop)
    (hnil : P [] [])
    (hcons : ∀ {t rest} f s, subs.find? (·.id == f.subId) = some s → subAccepts s m.attrs = true →
      predChoiceOk db s m now f.nb = true → P t rest → P (f :: t) (mkDelivery s m now f :: rest)) :
    ∀ {fwds : List Fwd} {rows : List Delivery}, mkRows db subs m now fwds = .ok rows → P fwds rows
  | [], rows, h => by
    unfold mkRows at h
    injection h with h; subst h; exact hnil
  | f :: t, rows, h => by
    unfold mkRows at h
    split at h
    · cases h
    rename_i s hs
    obtain ⟨hacc, h⟩ := ok_of_if_not_error h
    obtain ⟨hpred, h⟩ := ok_of_if_not_error h
    split at h
    · cases h
    rename_i rest hrest
    cases h
    exact hcons f s hs hacc hpred (mkRows_ind P hnil hcons hrest)

/-- the rows `mkRows` builds: one per observed forward, each the canonical fresh row for a live
    subscriber that accepts the message, linked to an allowed predecessor -/
theorem mkRows_spec (db : Db) (subs : List Sub) (m : Msg) (now : Time) :
    ∀ (fwds : List Fwd) (rows : List Delivery), mkRows db subs m now fwds = .ok rows →
      rows.map (·.subId) = fwds.map (·.subId) ∧ rows.map (·.id) = fwds.map (·.newId) ∧
      ∀ r ∈ rows, ∃ s f, s ∈ subs ∧ subAccepts s m.attrs = true ∧ predChoiceOk db s m now f.nb = true ∧
        r = mkDelivery s m now f := by
  intro fwds rows h
  refine mkRows_ind (fun fwds rows => rows.map (·.subId) = fwds.map (·.subId) ∧ rows.map (·.id) = fwds.map (·.newId) ∧
      ∀ r ∈ rows, ∃ s f, s ∈ subs ∧ subAccepts s m.attrs = true ∧ predChoiceOk db s m now f.nb = true ∧
        r = mkDelivery s m now f)
    ⟨rfl, rfl, fun _ hr => nomatch hr⟩ (fun f s hs hacc hpred ⟨h1, h2, h3⟩ => ⟨?_, ?_, ?_⟩) h
  · simp [mkDelivery, h1, (find?_key (key := Sub.id) hs).2]
  · simp [mkDelivery, h2]
  · intro r hr
    rcases List.mem_cons.mp hr with rfl | hr
    · exact ⟨s, f, List.mem_of_find?_eq_some hs, hacc, hpred, rfl⟩
    · exact h3 r hr

/-- the messages of one `Publish` request: message `i` is stored and enqueued at `now + i·tick` -/
theorem publishLoop_ind {t : Topic} {tick : Int} (P : Db → Time → Prop)
    (hone : ∀ {db now pm db1 w}, publishOne db t now pm = .ok (db1, w) → P db now → P db1 (now + tick)) :
    ∀ {ms : List PubMsg} {db : Db} {now : Time} {wakes : List Id} {db' : Db} {w' : List Id},
      publishLoop t tick db now wakes ms = .ok (db', w') → P db now → P db' (now + tick * (ms.length : Nat))
  | [], db, now, _, db', _, h, hp => by
    unfold publishLoop at h
    injection h with h; injection h with h1 _; subst h1
    simpa using hp
  | pm :: r, db, now, wakes, db', w', h, hp => by
    unfold publishLoop at h
    split at h
    · cases h
    · rename_i db1 w h1
      have := publishLoop_ind P hone h (hone h1 hp)
      rwa [List.length_cons, Int.natCast_succ, Int.mul_add, Int.mul_one, Int.add_comm _ tick, ← Int.add_assoc]

end Mmmbbb

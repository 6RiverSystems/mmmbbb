/-
The enqueueing of a message (`deliverAll`: publish, and the forward of every dead-lettering) appends
rows that both ordering obligations accept: the link the model's check `predChoiceOk` admits is the
link `Ord.rowNewOk` / `Ord2.rowNewOk2` ask for.
-/
import Mmmbbb.Proofs.OrderedSteps
import Mmmbbb.Proofs.Shape
namespace Mmmbbb
open Mmmbbb.Ord Mmmbbb.Ord2

theorem mem_predCands {db : Db} {s : Sub} {m : Msg} {now : Time} {d : Delivery} :
    d ∈ predCands db s m now ↔ d ∈ db.dels ∧ d.subId = s.id ∧ now < d.expiresAt ∧
      ∃ dm, db.msgById d.msgId = some dm ∧ dm.orderKey = m.orderKey := by
  unfold predCands
  simp only [List.mem_filter, Bool.and_eq_true, beq_iff_eq, decide_eq_true_eq]
  cases db.msgById d.msgId <;> simp [and_assoc]

/-- the second sort key, as it stands in the source (`Extracted.predecessorOrder`) -/
theorem tieBreak_true : tieBreak = true := by decide

theorem newestIn_iff {db : Db} {cs : List Delivery} {d : Delivery} :
    newestIn db cs d = true ↔ ∀ e ∈ cs, e.publishedAt ≤ d.publishedAt ∧
      (e.publishedAt = d.publishedAt → hasSucc db d = true → hasSucc db e = true) := by
  unfold newestIn
  simp only [tieBreak_true, List.all_eq_true, Bool.and_eq_true, decide_eq_true_eq, Bool.not_true, Bool.false_or,
    Bool.or_eq_true, Bool.not_eq_true', beq_eq_false_iff_ne, ne_eq]
  refine forall₂_congr fun e _ => and_congr_right fun _ => ?_
  by_cases heq : e.publishedAt = d.publishedAt <;> cases hasSucc db d <;> simp [heq]

def Keyed (s : Sub) (m : Msg) : Prop := s.ordered = true ∧ ∃ k, m.orderKey = some k ∧ k ≠ ""

theorem predChoiceOk_spec {db : Db} {s : Sub} {m : Msg} {now : Time} {nb : Option Id}
    (h : predChoiceOk db s m now nb = true) :
    (Keyed s m → (nb = none ∧ predCands db s m now = []) ∨
      ∃ q ∈ predCands db s m now, nb = some q.id ∧ newestIn db (predCands db s m now) q = true) ∧
    (¬ Keyed s m → nb = none) := by
  unfold predChoiceOk at h
  constructor
  · rintro ⟨hord, k, hk, hne⟩
    have hne' : (k != "") = true := by simpa using hne
    simp only [hord, hk, Bool.true_and, hne', if_true] at h
    cases nb with
    | none => exact Or.inl ⟨rfl, List.isEmpty_iff.mp h⟩
    | some p =>
      simp only [List.any_eq_true, Bool.and_eq_true, beq_iff_eq] at h
      obtain ⟨q, hq, rfl, hnew⟩ := h
      exact Or.inr ⟨q, hq, rfl, hnew⟩
  · intro hK
    rw [if_neg] at h
    · exact Option.isNone_iff_eq_none.mp h
    · intro hc
      simp only [Bool.and_eq_true] at hc
      refine hK ⟨hc.1, ?_⟩
      cases hmo : m.orderKey with
      | none => rw [hmo] at hc; simp at hc
      | some k => rw [hmo] at hc; exact ⟨k, rfl, by simpa using hc.2⟩

theorem keyOf_eq_some {db : Db} {d : Delivery} {k : String} :
    keyOf db d = some k ↔ k ≠ "" ∧ ∃ dm, db.msgById d.msgId = some dm ∧ dm.orderKey = some k := by
  unfold keyOf
  constructor
  · intro h
    split at h
    · rename_i dm hm
      split at h
      · rename_i k' hk'
        split at h
        · cases h
        · rename_i hne
          injection h with h; subst h
          exact ⟨by simpa using hne, dm, hm, hk'⟩
      · cases h
    · cases h
  · rintro ⟨hne, dm, hm, hk⟩
    rw [hm]
    simp only [hk]
    rw [if_neg (by simpa using hne)]

theorem keyOf_of_bind {db : Db} {d : Delivery} {k : String} (hk : k ≠ "")
    (h : (db.msgById d.msgId).bind (·.orderKey) = some k) : keyOf db d = some k := by
  refine keyOf_eq_some.mpr ⟨hk, ?_⟩
  cases hm : db.msgById d.msgId with
  | none => rw [hm] at h; cases h
  | some m => rw [hm] at h; exact ⟨m, rfl, h⟩

theorem msgById_append_of_some {db : Db} {m x : Msg} {i : Id} (h : db.msgById i = some x) :
    ({ db with msgs := db.msgs ++ [m] } : Db).msgById i = some x := find?_append_of_some h

/-- a row made earlier in the same `mkRows`, as the row made for `s` and `f` sees it -/
def Sibling (db : Db) (now : Time) (sid newId : Id) (p : Delivery) : Prop :=
  p.subId ≠ sid ∧ p.id ≠ newId ∧ p.publishedAt ≤ now ∧
    ∀ i, p.notBefore = some i → ∃ y ∈ db.dels, y.id = i ∧ y.subId = p.subId

section
variable {db db' : Db} {s : Sub} {m : Msg} {now : Time} {f : Fwd} {pre : List Delivery}
  (hmsg : db.msgById m.id = some m) (hs : s ∈ db.subs) (hlive : s.live = true)
  (huniq : UniqLive db) (hsubs' : db'.subs = db.subs) (hmsgs' : db'.msgs = db.msgs)
  (hpre : ∀ p ∈ pre, Sibling db now s.id f.newId p)
include hmsg hs hlive huniq hsubs' hmsgs'

theorem mkDelivery_keyed :
    (liveOrd db' (mkDelivery s m now f).subId = true ∧ keyOf db' (mkDelivery s m now f) ≠ none) ↔ Keyed s m := by
  rw [liveOrd_congr_subs hsubs', keyOf_congr_msgs hmsgs']
  have hk : ∀ k, keyOf db (mkDelivery s m now f) = some k ↔ k ≠ "" ∧ m.orderKey = some k := fun k => by
    rw [keyOf_eq_some]
    show _ ∧ (∃ dm, db.msgById m.id = some dm ∧ _) ↔ _
    rw [hmsg]; simp
  constructor
  · rintro ⟨hlo, hkey⟩
    obtain ⟨s', hs', hid, hl', ho'⟩ := liveOrd_iff.mp hlo
    obtain rfl : s' = s := huniq s' hs' s hs hl' hlive hid
    obtain ⟨k, hkk⟩ := Option.ne_none_iff_exists'.mp hkey
    exact ⟨ho', k, ((hk k).mp hkk).2, ((hk k).mp hkk).1⟩
  · rintro ⟨hord, k, hmk, hne⟩
    refine ⟨liveOrd_iff.mpr ⟨s, hs, rfl, hlive, hord⟩, ?_⟩
    rw [(hk k).mpr ⟨hne, hmk⟩]; simp

omit hs hlive huniq hsubs' in
include hpre in
theorem cands_mkDelivery (hK : Keyed s m) :
    cands db' (db.dels ++ pre) (mkDelivery s m now f) = predCands db s m now := by
  obtain ⟨_, k, hmk, hne⟩ := hK
  have hkr : keyOf db (mkDelivery s m now f) = some k := keyOf_eq_some.mpr ⟨hne, m, hmsg, hmk⟩
  unfold cands predCands
  rw [List.filter_append, (List.filter_eq_nil_iff (l := pre)).mpr fun p hp => by simp [mkDelivery, (hpre p hp).1], List.append_nil]
  refine List.filter_congr fun e _ => ?_
  rw [keyOf_congr_msgs hmsgs', keyOf_congr_msgs hmsgs', hkr, hmk]
  congr 1
  rw [Bool.eq_iff_iff, beq_iff_eq, keyOf_eq_some]
  cases db.msgById e.msgId <;> simp [hne]

include hpre

theorem mkDelivery_linked (hfresh : ∀ e ∈ db.dels, e.id ≠ f.newId) (hok : predChoiceOk db s m now f.nb = true) :
    RowLinked db' now (db.dels ++ pre) (mkDelivery s m now f) := by
  refine ⟨⟨Int.le_refl _, fun s' hs' hl hid => ?_, rfl, rfl, fun e he => ?_⟩, fun hlo hkey => ?_⟩
  · obtain rfl : s' = s := huniq s' (hsubs' ▸ hs') s hs hl hlive hid
    rfl
  · exact (List.mem_append.mp he).elim (hfresh e) (fun h => (hpre e h).2.1)
  · have hK := (mkDelivery_keyed hmsg hs hlive huniq hsubs' hmsgs').mp ⟨hlo, hkey⟩
    rw [cands_mkDelivery hmsg hmsgs' hpre hK]
    rcases (predChoiceOk_spec hok).1 hK with h | ⟨q, hq, hnb, hnew⟩
    · exact Or.inl h
    · exact Or.inr ⟨q, hq, hnb, fun e he => (newestIn_iff.mp hnew e he).1⟩

theorem mkDelivery_rowNewOk (hfresh : ∀ e ∈ db.dels, e.id ≠ f.newId)
    (hok : predChoiceOk db s m now f.nb = true) (hclock : ∀ d ∈ db.dels, d.publishedAt < now) :
    (rowNewOk now db' now (db.dels ++ pre) (mkDelivery s m now f) && stampOk db' (db.dels ++ pre) (mkDelivery s m now f)) = true :=
  rowNewOk_stampOk_iff.mpr ⟨Int.le_refl _, mkDelivery_linked hmsg hs hlive huniq hsubs' hmsgs' hpre hfresh hok, fun e he p =>
    (List.mem_append.mp he).elim (hclock e) (fun h => absurd p.sub (hpre e h).1)⟩

/-- The tie clause of `rowNewOk2` counts who waits on a candidate in the *new* table, the model's
    `newestIn` in the old one: they agree because the rows made in the same statement link inside their
    own subscriptions (this is where unique delivery ids are needed). -/
theorem mkDelivery_rowNewOk2 (hfresh : ∀ e ∈ db.dels, e.id ≠ f.newId) (hok : predChoiceOk db s m now f.nb = true)
    (hids : (db.dels.map (·.id)).Nodup) (hpast : ∀ d ∈ db.dels, d.publishedAt ≤ now) :
    rowNewOk2 db' now (db.dels ++ pre) (mkDelivery s m now f) = true := by
  have hkeyed := mkDelivery_keyed (now := now) (f := f) hmsg hs hlive huniq hsubs' hmsgs'
  have hl := mkDelivery_linked hmsg hs hlive huniq hsubs' hmsgs' hpre hfresh hok
  refine rowNewOk2_iff.mpr ⟨hl.toRowFresh, fun e he => (List.mem_append.mp he).elim (hpast e) (fun h => (hpre e h).2.2.1),
    fun hlo hkey => (hl.link hlo hkey).imp_right fun ⟨q, hq, hnb, hall⟩ => ⟨q, hq, hnb, fun e he => ⟨hall e he, ?_⟩⟩,
    fun hn => (predChoiceOk_spec hok).2 fun hK => hn (hkeyed.mpr hK)⟩
  intro heq
  have hK := hkeyed.mp ⟨hlo, hkey⟩
  rw [cands_mkDelivery hmsg hmsgs' hpre hK] at hq he
  have hsucc : ∀ x ∈ predCands db s m now, hasSuccIn (db.dels ++ pre) x = hasSucc db x := by
    intro x hx
    obtain ⟨hxm, hxs, _⟩ := mem_predCands.mp hx
    unfold hasSuccIn hasSucc
    rw [List.any_append, Bool.or_eq_left_iff_imp.mpr fun hany => ?_]
    obtain ⟨p, hp, hnbp⟩ := List.any_eq_true.mp hany
    obtain ⟨y, hy, hyi, hys⟩ := (hpre p hp).2.2.2 x.id (by simpa using hnbp)
    obtain rfl : y = x := eq_of_nodup_ids hids hy hxm hyi
    exact absurd (hys.symm.trans hxs) (hpre p hp).1
  rcases (predChoiceOk_spec hok).1 hK with ⟨hnone, _⟩ | ⟨q', hq', hnb', hnew⟩
  · cases hnone.symm.trans hnb
  · obtain rfl : q' = q := eq_of_nodup_ids hids (mem_predCands.mp hq').1 (mem_predCands.mp hq).1
      (Option.some.inj (hnb'.symm.trans hnb))
    rw [hsucc q' hq, hsucc e he]
    exact (newestIn_iff.mp hnew e he).2 heq

end

theorem mkRows_appendAll {db : Db} {subs : List Sub} {m : Msg} {now : Time} (P : List Delivery → Delivery → Prop)
    (hrow : ∀ s ∈ subs, ∀ f pre, predChoiceOk db s m now f.nb = true → (∀ p ∈ pre, Sibling db now s.id f.newId p) →
      (∀ e ∈ db.dels, e.id ≠ f.newId) → P (db.dels ++ pre) (mkDelivery s m now f))
    {fwds : List Fwd} {rows : List Delivery} (h : mkRows db subs m now fwds = .ok rows) :
      (fwds.map (·.newId)).Nodup → (fwds.map (·.subId)).Nodup → (∀ f ∈ fwds, ∀ e ∈ db.dels, e.id ≠ f.newId) →
      ∀ pre, (∀ p ∈ pre, ∀ f ∈ fwds, Sibling db now f.subId f.newId p) → AppendAll P (db.dels ++ pre) rows := by
  refine mkRows_ind (fun fwds rows => (fwds.map (·.newId)).Nodup → (fwds.map (·.subId)).Nodup →
      (∀ f ∈ fwds, ∀ e ∈ db.dels, e.id ≠ f.newId) → ∀ pre, (∀ p ∈ pre, ∀ f ∈ fwds, Sibling db now f.subId f.newId p) →
      AppendAll P (db.dels ++ pre) rows)
    (fun _ _ _ _ _ => trivial) (fun f s hs _ hok ih hn1 hn2 hfresh pre hpre => ?_) h
  have hsid : s.id = f.subId := by simpa using List.find?_some hs
  simp only [List.map_cons, List.nodup_cons] at hn1 hn2
  refine ⟨hrow s (List.mem_of_find?_eq_some hs) f pre hok (fun p hp => hsid ▸ hpre p hp f List.mem_cons_self)
    (hfresh f List.mem_cons_self), ?_⟩
  rw [List.append_assoc]
  refine ih hn1.2 hn2.2 (fun g hg => hfresh g (List.mem_cons_of_mem _ hg)) _ fun p hp g hg => ?_
  rcases List.mem_append.mp hp with h1 | h1
  · exact hpre p h1 g (List.mem_cons_of_mem _ hg)
  · obtain rfl := List.mem_singleton.mp h1
    refine ⟨fun heq => hn2.1 (List.mem_map.mpr ⟨g, hg, (hsid.symm.trans heq).symm⟩),
      fun heq => hn1.1 (List.mem_map.mpr ⟨g, hg, heq.symm⟩), Int.le_refl _, fun i hi => ?_⟩
    -- the link of the row just made names a row of its own subscription
    by_cases hK : Keyed s m
    · rcases (predChoiceOk_spec hok).1 hK with ⟨hnone, _⟩ | ⟨q, hq, hnb, _⟩
      · cases hnone.symm.trans hi
      · obtain rfl : q.id = i := Option.some.inj (hnb.symm.trans hi)
        exact ⟨q, (mem_predCands.mp hq).1, rfl, (mem_predCands.mp hq).2.1⟩
    · cases ((predChoiceOk_spec hok).2 hK).symm.trans hi

/-! The state before is `db0`; the enqueueing runs on `db`, which is `db0` (a dead-letter forward) or
`db0` with the published message added. -/

section
variable {db0 db db' : Db} {subs : List Sub} {m : Msg} {now : Time} {fwds : List Fwd} {w : List Id}
  (h : deliverAll db subs m now fwds = .ok (db', w))
  (hd : db.dels = db0.dels) (hs : db.subs = db0.subs) (hk : ∀ d ∈ db0.dels, keyOf db d = keyOf db0 d)
include h hd hs hk

theorem enqueue_appendAll (P : List Delivery → Delivery → Prop)
    (hrow : ∀ s ∈ subs, ∀ f pre, predChoiceOk db s m now f.nb = true → (∀ p ∈ pre, Sibling db now s.id f.newId p) →
      (∀ e ∈ db.dels, e.id ≠ f.newId) → P (db.dels ++ pre) (mkDelivery s m now f)) :
    ∃ rows, db'.dels = db0.dels ++ rows ∧ db'.subs = db0.subs ∧ (∀ d ∈ db0.dels, keyOf db' d = keyOf db0 d) ∧
      AppendAll P db0.dels rows := by
  obtain ⟨hn2, _, hn1, hfresh, rows, hrows, rfl, _⟩ := deliverAll_ok h
  refine ⟨rows, by rw [← hd], hs, fun d hd' => hk d hd', ?_⟩
  have := mkRows_appendAll P hrow hrows hn1 hn2
    (fun f hf e he heq => ?_) [] (fun p hp => by cases hp)
  · rwa [List.append_nil, hd] at this
  · have := allIds_of_del he
    rw [heq, hfresh f hf] at this; cases this

variable (hmsg : db.msgById m.id = some m) (hsubs : ∀ s ∈ subs, s ∈ db.subs ∧ s.live = true)
  (huniq : UniqLive db)
include hmsg hsubs huniq

theorem enqueue_stepOk (hclock : ∀ d ∈ db.dels, d.publishedAt < now) : stepOk true db0 now db' now = true := by
  obtain ⟨_, _, hdb', _⟩ := deliverAll_shape h
  obtain ⟨rows, hd', hs', hk', hall⟩ := enqueue_appendAll h hd hs hk
    (fun T r => (rowNewOk now db' now T r && stampOk db' T r) = true) fun s hsm f pre hok hpre hfr =>
    mkDelivery_rowNewOk (db' := db') hmsg (hsubs s hsm).1 (hsubs s hsm).2 huniq (by rw [hdb']) (by rw [hdb'])
      hpre hfr hok hclock
  exact stepOk_of_append (Int.le_refl _) hd' hs' hk' (appendOk_of_all hall)

/-- `now` may be the very instant rows already in the table are stamped with: several deliveries
    dead-lettered in one transaction -/
theorem enqueue_stepOk2 (hids : (db.dels.map (·.id)).Nodup) (hpast : ∀ d ∈ db.dels, d.publishedAt ≤ now) :
    stepOk2 db0 now db' now = true := by
  obtain ⟨_, _, hdb', _⟩ := deliverAll_shape h
  obtain ⟨rows, hd', hs', hk', hall⟩ := enqueue_appendAll h hd hs hk
    (fun T r => rowNewOk2 db' now T r = true) fun s hsm f pre hok hpre hfr =>
    mkDelivery_rowNewOk2 (db' := db') hmsg (hsubs s hsm).1 (hsubs s hsm).2 huniq (by rw [hdb']) (by rw [hdb'])
      hpre hfr hok hids hpast
  exact stepOk2_of_append (Int.le_refl _) hd' hs' hk' (appendOk2_of_all hall)

end

theorem publishOne_enqueue {db db' : Db} {t : Topic} {now : Time} {pm : PubMsg} {w : List Id}
    (h : publishOne db t now pm = .ok (db', w)) (hfk : ∀ d ∈ db.dels, (db.msgById d.msgId).isSome = true) :
    ∃ (m : Msg) (db1 : Db), db1 = { db with msgs := db.msgs ++ [m] } ∧ db1.msgById m.id = some m ∧
      (∀ d ∈ db.dels, keyOf db1 d = keyOf db d) ∧
      deliverAll db1 (db1.liveSubsOf t.id) m now pm.fwds = .ok (db', w) := by
  obtain ⟨hf, m, rfl, h⟩ := publishOne_ok h
  refine ⟨_, _, rfl, ?_, fun d hd => ?_, h⟩
  · unfold Db.msgById
    rw [List.find?_append, List.find?_eq_none.mpr fun x hx hxe => ?_]
    · simp
    · have := allIds_of_msg hx
      rw [show x.id = pm.id by simpa using hxe, hf] at this
      cases this
  · cases hx : db.msgById d.msgId with
    | none =>
      have := hfk d hd
      rw [hx] at this
      cases this
    | some x => exact keyOf_congr ((msgById_append_of_some hx).trans hx.symm)

end Mmmbbb

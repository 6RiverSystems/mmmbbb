/-
Invariant of the wake-up protocol (Model/Notify.lean) for the configuration the source has:
`wakeContinue = true`, `registerFirst = true`.
-/
import Mmmbbb.Model.Notify
namespace Mmmbbb.Notify

@[simp] theorem setW_open (σ : Sys) (i w) : (setW σ i w).open = σ.open := rfl
@[simp] theorem setW_avail (σ : Sys) (i w) : (setW σ i w).avail = σ.avail := rfl
@[simp] theorem setW_writer (σ : Sys) (i w) : (setW σ i w).writer = σ.writer := rfl
@[simp] theorem setW_next (σ : Sys) (i w) : (setW σ i w).next = σ.next := rfl
@[simp] theorem setX_open (σ : Sys) (j x) : (setX σ j x).open = σ.open := rfl
@[simp] theorem setX_avail (σ : Sys) (j x) : (setX σ j x).avail = σ.avail := rfl
@[simp] theorem setX_waiter (σ : Sys) (j x) : (setX σ j x).waiter = σ.waiter := rfl
@[simp] theorem setX_next (σ : Sys) (j x) : (setX σ j x).next = σ.next := rfl
@[simp] theorem setOpen_open (σ : Sys) (op) : (setOpen σ op).open = op := rfl
@[simp] theorem setOpen_avail (σ : Sys) (op) : (setOpen σ op).avail = σ.avail := rfl
@[simp] theorem setOpen_writer (σ : Sys) (op) : (setOpen σ op).writer = σ.writer := rfl
@[simp] theorem setOpen_waiter (σ : Sys) (op) : (setOpen σ op).waiter = σ.waiter := rfl
@[simp] theorem setOpen_next (σ : Sys) (op) : (setOpen σ op).next = σ.next := rfl
@[simp] theorem setAvail_open (σ : Sys) (a) : (setAvail σ a).open = σ.open := rfl
@[simp] theorem setAvail_avail (σ : Sys) (a) : (setAvail σ a).avail = a := rfl
@[simp] theorem setAvail_writer (σ : Sys) (a) : (setAvail σ a).writer = σ.writer := rfl
@[simp] theorem setAvail_waiter (σ : Sys) (a) : (setAvail σ a).waiter = σ.waiter := rfl
@[simp] theorem setAvail_next (σ : Sys) (a) : (setAvail σ a).next = σ.next := rfl
@[simp] theorem setW_ents (σ : Sys) (i w) : (setW σ i w).ents = σ.ents := rfl
@[simp] theorem setX_ents (σ : Sys) (j x) : (setX σ j x).ents = σ.ents := rfl
@[simp] theorem setOpen_ents (σ : Sys) (op) : (setOpen σ op).ents = σ.ents := rfl
@[simp] theorem setAvail_ents (σ : Sys) (a) : (setAvail σ a).ents = σ.ents := rfl
@[simp] theorem setEnts_open (σ : Sys) (e) : (setEnts σ e).open = σ.open := rfl
@[simp] theorem setEnts_avail (σ : Sys) (e) : (setEnts σ e).avail = σ.avail := rfl
@[simp] theorem setEnts_writer (σ : Sys) (e) : (setEnts σ e).writer = σ.writer := rfl
@[simp] theorem setEnts_waiter (σ : Sys) (e) : (setEnts σ e).waiter = σ.waiter := rfl
@[simp] theorem setEnts_next (σ : Sys) (e) : (setEnts σ e).next = σ.next := rfl
@[simp] theorem setEnts_ents (σ : Sys) (e) : (setEnts σ e).ents = e := rfl
@[simp] theorem setW_waiter (σ : Sys) (i w) : (setW σ i w).waiter = upd σ.waiter i w := rfl
@[simp] theorem setX_writer (σ : Sys) (j x) : (setX σ j x).writer = upd σ.writer j x := rfl

/-- a waiter that will not look at the database again unless somebody closes its channel -/
def StuckProne (op : List (Nat × Nat)) (w : Waiter) : Prop :=
  ((w.pc = 3 ∧ w.found = false) ∨ w.pc = 4) ∧ chanOpen op w.chan = true

structure Inv (σ : Sys) : Prop where
  fresh_open : ∀ p ∈ σ.open, p.1 < σ.next
  fresh_chan : ∀ i c, (σ.waiter i).chan = some c → c < σ.next
  /-- (kept by every step, read by no other clause) -/
  uniq : ∀ i i' c, (σ.waiter i).chan = some c → (σ.waiter i').chan = some c → i = i'
  chan_sub : ∀ i c, (σ.waiter i).chan = some c → ∀ p ∈ σ.open, p.1 = c → p.2 = (σ.waiter i).sub
  ent_open : ∀ p ∈ σ.open, p.2 ∈ σ.ents
  covers : ∀ j s, 0 < addsFor (σ.writer j).adds s → s ∈ (σ.writer j).wakes
  nolost : ∀ i, StuckProne σ.open (σ.waiter i) → 0 < σ.avail (σ.waiter i).sub →
    ∃ j, (σ.writer j).pc = 1 ∧ (σ.waiter i).sub ∈ (σ.writer j).wakes

theorem chanOpen_iff {op : List (Nat × Nat)} {c : Option Nat} : chanOpen op c = true ↔ ∃ p ∈ op, some p.1 = c := by
  cases c <;> simp [chanOpen]

theorem StuckProne.mono {op op' : List (Nat × Nat)} {w : Waiter} (h : ∀ p ∈ op', some p.1 = w.chan → p ∈ op) :
    StuckProne op' w → StuckProne op w := by
  rintro ⟨a, b⟩
  obtain ⟨p, hp, e⟩ := chanOpen_iff.mp b
  exact ⟨a, chanOpen_iff.mpr ⟨p, h p hp e, e⟩⟩

theorem mem_cancel {op : List (Nat × Nat)} {c : Option Nat} {p : Nat × Nat} (h : p ∈ cancel op c) : p ∈ op := by
  cases c with
  | none => exact h
  | some c => exact (List.mem_filter.mp h).1

/-- with `continue`, WakePublishListeners removes exactly the channels of the listed subscriptions -/
theorem wakeAll_spec (op : List (Nat × Nat)) (ents subs : List Nat) (hents : ∀ p ∈ op, p.2 ∈ ents) :
    (∀ p, p ∈ (wakeAll true op ents subs).1 ↔ p ∈ op ∧ p.2 ∉ subs) ∧
    (∀ p ∈ (wakeAll true op ents subs).1, p.2 ∈ (wakeAll true op ents subs).2) := by
  induction subs generalizing op ents with
  | nil => exact ⟨fun p => by simp [wakeAll], hents⟩
  | cons s rest ih =>
    unfold wakeAll
    split
    · have h' : ∀ p ∈ op.filter (fun p => p.2 != s), p.2 ∈ ents.filter (fun e => e != s) := fun p hp =>
        have ⟨h1, h2⟩ := List.mem_filter.mp hp
        List.mem_filter.mpr ⟨hents p h1, h2⟩
      refine ⟨fun p => ?_, (ih _ _ h').2⟩
      rw [(ih _ _ h').1]
      simp only [List.mem_filter, bne_iff_ne, ne_eq, List.mem_cons, not_or, and_assoc]
    · -- nothing is registered under `s`
      next hne =>
      refine ⟨fun p => ?_, (ih op ents hents).2⟩
      rw [if_pos rfl, (ih op ents hents).1, List.mem_cons, not_or]
      exact ⟨fun ⟨h1, h3⟩ => ⟨h1, fun he => hne (he ▸ hents p h1), h3⟩, fun ⟨h1, _, h3⟩ => ⟨h1, h3⟩⟩

theorem Inv.setW {σ : Sys} (h : Inv σ) (i0 : Nat) {w' : Waiter}
    (hsub : w'.sub = (σ.waiter i0).sub) (hchan : w'.chan = (σ.waiter i0).chan)
    (hst : StuckProne σ.open w' → StuckProne σ.open (σ.waiter i0) ∨ σ.avail w'.sub = 0) :
    Inv (Notify.setW σ i0 w') := by
  have hc := upd_proj Waiter.chan σ.waiter i0 w' hchan
  have hs := upd_proj Waiter.sub σ.waiter i0 w' hsub
  refine ⟨h.fresh_open, ?_, ?_, ?_, h.ent_open, h.covers, ?_⟩
  · simpa only [setW_waiter, setW_next, hc] using h.fresh_chan
  · simpa only [setW_waiter, hc] using h.uniq
  · simpa only [setW_waiter, setW_open, hc, hs] using h.chan_sub
  · intro i hsp ha
    simp only [setW_waiter, setW_open, setW_avail, setW_writer, hs] at hsp ha ⊢
    by_cases e : i = i0
    · subst e
      rw [upd_same] at hsp
      rcases hst hsp with h1 | h0
      · exact h.nolost i h1 ha
      · rw [hsub] at h0; omega
    · rw [upd_other _ _ _ _ e] at hsp
      exact h.nolost i hsp ha

theorem Inv.setW_awake {σ : Sys} (h : Inv σ) (i0 : Nat) {w' : Waiter}
    (hsub : w'.sub = (σ.waiter i0).sub) (hchan : w'.chan = (σ.waiter i0).chan)
    (hpc : ¬ ((w'.pc = 3 ∧ w'.found = false) ∨ w'.pc = 4)) : Inv (Notify.setW σ i0 w') :=
  h.setW i0 hsub hchan (fun hs => absurd hs.1 hpc)

theorem Inv.setOpen {σ : Sys} (h : Inv σ) {op' : List (Nat × Nat)} (hsub : ∀ p ∈ op', p ∈ σ.open) :
    Inv (Notify.setOpen σ op') :=
  ⟨fun p hp => h.fresh_open p (hsub p hp), h.fresh_chan, h.uniq, fun i c hc p hp => h.chan_sub i c hc p (hsub p hp),
    fun p hp => h.ent_open p (hsub p hp), h.covers, fun i hs => h.nolost i (hs.mono fun p hp _ => hsub p hp)⟩

theorem Inv.setAvail {σ : Sys} (h : Inv σ) {a' : Nat → Nat}
    (hnew : ∀ s, σ.avail s = 0 → 0 < a' s → ∃ j, (σ.writer j).pc = 1 ∧ s ∈ (σ.writer j).wakes) :
    Inv (Notify.setAvail σ a') := by
  refine ⟨h.fresh_open, h.fresh_chan, h.uniq, h.chan_sub, h.ent_open, h.covers, fun i hs ha => ?_⟩
  by_cases hz : 0 < σ.avail (σ.waiter i).sub
  · exact h.nolost i hs hz
  · exact hnew (σ.waiter i).sub (by omega) ha

/-- a waiter takes a fresh channel at the top of its loop: it is registered under a number no one
    holds, and at pc 2 it is not about to sleep -/
theorem Inv.fresh {σ : Sys} (h : Inv σ) (i0 : Nat) {op : List (Nat × Nat)} {wt : Nat → Waiter}
    (hopen : ∀ p ∈ op, p ∈ σ.open ∨ p = (σ.next, (σ.waiter i0).sub))
    (hc0 : (wt i0).chan = some σ.next) (hs0 : (wt i0).sub = (σ.waiter i0).sub) (hp0 : (wt i0).pc = 2)
    (hw : ∀ i, i ≠ i0 → wt i = σ.waiter i) :
    Inv { σ with waiter := wt, «open» := op, ents := (σ.waiter i0).sub :: σ.ents, next := σ.next + 1 } := by
  have hchan : ∀ i c, (wt i).chan = some c → i = i0 ∧ c = σ.next ∨ i ≠ i0 ∧ (σ.waiter i).chan = some c ∧ c < σ.next := by
    intro i c hc
    by_cases e : i = i0
    · subst e
      exact .inl ⟨rfl, Option.some.inj (hc.symm.trans hc0)⟩
    · rw [hw i e] at hc
      exact .inr ⟨e, hc, h.fresh_chan i c hc⟩
  have hold : ∀ p ∈ op, p.1 < σ.next → p ∈ σ.open := fun p hp hlt =>
    (hopen p hp).resolve_right fun e => Nat.lt_irrefl _ (e ▸ hlt)
  refine ⟨?_, ?_, ?_, ?_, ?_, h.covers, ?_⟩
  · intro p hp
    rcases hopen p hp with h1 | rfl
    · exact Nat.lt_succ_of_lt (h.fresh_open p h1)
    · exact Nat.lt_succ_self _
  · intro i c hc
    rcases hchan i c hc with ⟨_, rfl⟩ | ⟨_, _, hlt⟩
    · exact Nat.lt_succ_self _
    · exact Nat.lt_succ_of_lt hlt
  · intro i i' c h1 h2
    rcases hchan i c h1 with ⟨rfl, rfl⟩ | ⟨_, g1, l1⟩ <;> rcases hchan i' _ h2 with ⟨rfl, e2⟩ | ⟨_, g2, l2⟩
    · rfl
    · exact absurd l2 (Nat.lt_irrefl _)
    · exact absurd (e2 ▸ l1) (Nat.lt_irrefl _)
    · exact h.uniq i i' c g1 g2
  · intro i c hc p hp hpc
    rcases hchan i c hc with ⟨rfl, rfl⟩ | ⟨e, g, l⟩
    · rcases hopen p hp with h1 | rfl
      · exact absurd (hpc ▸ h.fresh_open p h1) (Nat.lt_irrefl _)
      · exact hs0.symm
    · exact (h.chan_sub i c g p (hold p hp (hpc ▸ l)) hpc).trans (congrArg Waiter.sub (hw i e)).symm
  · intro p hp
    rcases hopen p hp with h1 | rfl
    · exact List.mem_cons_of_mem _ (h.ent_open p h1)
    · exact List.mem_cons_self
  · intro i hs ha
    dsimp only at hs ha ⊢
    by_cases e : i = i0
    · subst e
      exact absurd hs.1 (by simp [hp0])
    · rw [hw i e] at *
      -- its channel is an old one, so it is open in `σ` as well
      exact h.nolost i (hs.mono fun p hp e => hold p hp (h.fresh_chan i p.1 e.symm)) ha

theorem Inv.reloop {σ : Sys} (h : Inv σ) (cfg : Cfg) (hr : cfg.registerFirst = true) (i0 : Nat) :
    Inv (Notify.reloop cfg σ i0) := by
  unfold Notify.reloop
  simp only [hr, if_true]
  refine h.fresh i0 ?_ ?_ ?_ ?_ ?_
  · intro p hp
    rcases List.mem_append.mp hp with h1 | h1
    · exact .inl (mem_cancel h1)
    · exact .inr (List.mem_singleton.mp h1)
  · simp [register]
  · simp [register]
  · simp
  · intro i hi; simp [register, upd_other _ _ _ _ hi]

theorem Inv.setEnts {σ : Sys} (h : Inv σ) {e : List Nat} (he : ∀ p ∈ σ.open, p.2 ∈ e) : Inv (Notify.setEnts σ e) :=
  ⟨h.fresh_open, h.fresh_chan, h.uniq, h.chan_sub, he, h.covers, h.nolost⟩

/-- a writer moves on: going to pc 1 it can only help; leaving pc 1 it must not be the one a sleeper relies on -/
theorem Inv.setX_pc {σ : Sys} (h : Inv σ) (j0 : Nat) (pc' : Nat)
    (hdep : pc' = 1 ∨ ∀ i, StuckProne σ.open (σ.waiter i) → (σ.waiter i).sub ∉ (σ.writer j0).wakes) :
    Inv (Notify.setX σ j0 { σ.writer j0 with pc := pc' }) := by
  have hadds := upd_proj Writer.adds σ.writer j0 { σ.writer j0 with pc := pc' } rfl
  have hwakes := upd_proj Writer.wakes σ.writer j0 { σ.writer j0 with pc := pc' } rfl
  refine ⟨h.fresh_open, h.fresh_chan, h.uniq, h.chan_sub, h.ent_open, ?_, ?_⟩
  · simpa only [setX_writer, hadds, hwakes] using h.covers
  · intro i hs ha
    obtain ⟨j, hj1, hj2⟩ := h.nolost i hs ha
    simp only [setX_writer, hwakes]
    refine ⟨j, ?_, hj2⟩
    by_cases e : j = j0
    · subst e
      rcases hdep with rfl | hdep
      · rw [upd_same]
      · exact absurd hj2 (hdep i hs)
    · rw [upd_other _ _ _ _ e]; exact hj1

theorem Inv.open_sub {σ : Sys} (h : Inv σ) {op : List (Nat × Nat)} (hop : ∀ p ∈ op, p ∈ σ.open) {i : Nat}
    (hc : chanOpen op (σ.waiter i).chan = true) : ∃ p ∈ op, p.2 = (σ.waiter i).sub := by
  obtain ⟨p, hp, e⟩ := chanOpen_iff.mp hc
  exact ⟨p, hp, h.chan_sub i p.1 e.symm p (hop p hp) rfl⟩

theorem Inv.waiterStep {σ : Sys} (h : Inv σ) (cfg : Cfg) (hr : cfg.registerFirst = true) (i0 : Nat) :
    Inv (Notify.waiterStep cfg σ i0) := by
  unfold Notify.waiterStep
  simp only
  split
  · exact h.setW_awake i0 rfl rfl (by simp)
  · exact h.reloop cfg hr i0
  · -- the query: nothing becomes deliverable, and an empty answer means nothing was
    refine (h.setAvail (fun s h0 hp => ?_)).setW i0 rfl rfl ?_
    · unfold upd at hp
      split at hp
      · next e => subst e; omega
      · omega
    · rintro ⟨h3 | h4, _⟩
      · right
        have hf : ¬ (0 < σ.avail (σ.waiter i0).sub) := by simpa using h3.2
        show upd σ.avail (σ.waiter i0).sub _ (σ.waiter i0).sub = 0
        rw [upd_same]; omega
      · simp at h4
  · -- after the query (`split` settles the test of `registerFirst` by `hr`)
    split
    · exact (h.setOpen (fun p hp => mem_cancel hp)).setW_awake i0 rfl rfl (by simp)
    · rename_i hpc hf
      split
      · rename_i ho
        exact h.setW i0 rfl rfl (fun _ => .inl ⟨.inl ⟨hpc, by simpa using hf⟩, ho⟩)
      · exact h.reloop cfg hr i0
  · split
    · exact h
    · exact h.reloop cfg hr i0
  · exact h

theorem Inv.writerStep {σ : Sys} (h : Inv σ) (cfg : Cfg) (hc : cfg.wakeContinue = true) (j0 : Nat) :
    Inv (Notify.writerStep cfg σ j0) := by
  unfold Notify.writerStep
  simp only
  split
  · -- commit: what the writer adds is covered by its own wake-up, now pending
    exact (h.setX_pc j0 1 (.inl rfl)).setAvail
      (fun s (h0 : σ.avail s = 0) (hp : 0 < σ.avail s + addsFor (σ.writer j0).adds s) =>
        ⟨j0, by simp, by simpa using h.covers j0 s (by omega)⟩)
  · -- wake: a waiter whose channel survives is on none of the woken subscriptions
    rw [hc]
    obtain ⟨w1, w2⟩ := wakeAll_spec σ.open σ.ents (σ.writer j0).wakes h.ent_open
    have hsub : ∀ p ∈ (wakeAll true σ.open σ.ents (σ.writer j0).wakes).1, p ∈ σ.open := fun p hp => ((w1 p).mp hp).1
    refine ((h.setOpen hsub).setEnts w2).setX_pc j0 2 (.inr fun i hs => ?_)
    obtain ⟨p, hp, e⟩ := h.open_sub hsub hs.2
    exact e ▸ ((w1 p).mp hp).2
  · exact h

/-- the configuration for which the invariant is proved -/
def Cfg.Good (cfg : Cfg) : Prop := cfg.wakeContinue = true ∧ cfg.registerFirst = true

theorem Inv.step {σ : Sys} (h : Inv σ) (cfg : Cfg) (hg : cfg.Good) (p : Proc) : Inv (Notify.step cfg σ p) := by
  cases p with
  | waiter i => exact h.waiterStep cfg hg.2 i
  | writer j => exact h.writerStep cfg hg.1 j

theorem Inv.run {σ : Sys} (h : Inv σ) (cfg : Cfg) (hg : cfg.Good) (ps : List Proc) : Inv (Notify.run cfg σ ps) := by
  induction ps generalizing σ with
  | nil => exact h
  | cons p ps ih => exact ih (h.step cfg hg p)

theorem Inv.init (subs maxes : Nat → Nat) (writers : Nat → List (Nat × Nat) × List Nat) (avail : Nat → Nat)
    (hcov : ∀ j s, 0 < addsFor (writers j).1 s → s ∈ (writers j).2) :
    Inv (Notify.init subs maxes writers avail) := by
  refine ⟨?_, ?_, ?_, ?_, ?_, hcov, ?_⟩
  · intro p hp; cases hp
  · intro i c hc; cases hc
  · intro i i' c hc; cases hc
  · intro i c hc; cases hc
  · intro p hp; cases hp
  · rintro i ⟨h3 | h4, _⟩
    · cases h3.1
    · cases h4

theorem Inv.reachable (cfg : Cfg) (hg : cfg.Good) (subs maxes : Nat → Nat) (writers : Nat → List (Nat × Nat) × List Nat)
    (avail : Nat → Nat) (hcov : ∀ j s, 0 < addsFor (writers j).1 s → s ∈ (writers j).2) (sched : List Proc) :
    Inv (Notify.run cfg (Notify.init subs maxes writers avail) sched) :=
  (Inv.init subs maxes writers avail hcov).run cfg hg sched

end Mmmbbb.Notify

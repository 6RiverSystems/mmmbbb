/-
The two fragments of the operations on which C05 is proved outright (`Model/Fragment.lean`): their
invariants — `WF` with the clock assumption and without dead-letter policies, `WF2` with neither
restriction — and the preservation of each by every operation of its fragment.
-/
import Mmmbbb.Proofs.Refines
import Mmmbbb.Model.Fragment
namespace Mmmbbb
open Mmmbbb.Ord Mmmbbb.Ord2

/-- the invariant of the fragment `fragOk`: `Ord.Inv`, referential integrity (`Ref`), every row published
    before `now`, no dead-letter policy -/
structure WF (st : St) : Prop where
  inv  : Ord.Inv st.db st.now
  fkM  : ∀ d ∈ st.db.dels, (st.db.msgById d.msgId).isSome = true
  fkS  : ∀ d ∈ st.db.dels, ∃ s ∈ st.db.subs, s.id = d.subId
  uqA  : ∀ a ∈ st.db.subs, ∀ b ∈ st.db.subs, a.id = b.id → a = b
  idsS : ∀ s ∈ st.db.subs, st.db.allIds.contains s.id = true
  clk  : ∀ d ∈ st.db.dels, d.publishedAt < st.now
  noDL : ∀ s ∈ st.db.subs, ∀ d, s.dlTarget d = none

theorem WF.ref {st : St} (h : WF st) : Ref st.db := ⟨h.uqA, fun d hd => ⟨h.fkM d hd, h.fkS d hd⟩⟩

theorem WF.uniqLive {st : St} (h : WF st) : UniqLive st.db := h.ref.uniqLive

theorem WF.init : WF {} := by
  refine ⟨Ord.Inv.init 0, ?_, ?_, ?_, ?_, ?_, ?_⟩ <;> intro x hx <;> cases hx

/-- the invariant from its parts; `idsS` holds of every state -/
theorem WF.mk' {st : St} (inv : Ord.Inv st.db st.now) (r : Ref st.db) (clk : ∀ d ∈ st.db.dels, d.publishedAt < st.now)
    (noDL : NoDL st.db) : WF st :=
  ⟨inv, fun d hd => (r.fk d hd).1, fun d hd => (r.fk d hd).2, r.uniq, fun _ hs => allIds_of_sub hs, clk, noDL⟩

theorem WF.of_quiet {st st' : St} (h : WF st) (q : Quiet st st') : WF st' := by
  refine WF.mk' (h.inv.step q.refines) (q.ref h.ref) (fun d' hd' => ?_) (q.noDL h.noDL)
  obtain ⟨d, hd, r⟩ := (all2_of_rowsUpdOk q.rows).mem_right d' hd'
  exact r.pub ▸ Int.lt_of_lt_of_le (h.clk d hd) q.now

theorem WF.of_shrink {st st' : St} {v : List Id} (h : WF st) (hs : st' = st ∨ Shrink st st' v) : WF st' := by
  rcases hs with rfl | hs
  · exact h
  · refine WF.mk' (h.inv.step hs.refines) (hs.ref h.ref) ?_ (hs.eq ▸ h.noDL)
    rw [hs.eq]
    intro d hd
    obtain ⟨d0, hd0, rfl⟩ := mem_deleteDeliveries hd
    rw [clr_eq]; exact h.clk d0 hd0

theorem WF.publishOne {db db1 : Db} {t : Topic} {now : Time} {pm : PubMsg} {w : List Id} {tick : Int}
    (h : WF ⟨db, now⟩) (h1 : publishOne db t now pm = .ok (db1, w)) (htick : 0 < tick) : WF ⟨db1, now + tick⟩ := by
  obtain ⟨m, db0, rfl, hmsg, hk, hdel⟩ := publishOne_enqueue h1 h.fkM
  obtain ⟨rows, hrows, hdb1, _⟩ := deliverAll_shape hdel
  have hok := enqueue_stepOk (db0 := db) hdel rfl rfl hk hmsg (fun s hs => liveSubsOf_mem hs) h.uniqLive h.clk
  have hlater : Quiet ⟨db1, now⟩ ⟨db1, now + tick⟩ :=
    Quiet.of_same rfl rfl rfl (Int.le_add_of_nonneg_right (Int.le_of_lt htick))
  refine WF.mk' ((h.inv.step hok).step hlater.refines) (Ref.of_publishOne h1 h.ref) (fun d hd => ?_) (by rw [hdb1]; exact h.noDL)
  rw [hdb1] at hd
  show d.publishedAt < now + tick
  rcases List.mem_append.mp hd with hd | hd
  · exact Int.lt_trans (h.clk d hd) (Int.lt_add_of_pos_right now htick)
  · obtain ⟨_, _, _, _, _, rfl⟩ := (mkRows_spec _ _ _ _ _ _ hrows).2.2 d hd
    exact Int.lt_add_of_pos_right now htick

def fragRun : St → List Op → Prop
  | _, [] => True
  | st, op :: r => fragOk st op ∧ fragRun (step st op).1 r

instance fragRun.decidable : ∀ (st : St) (ops : List Op), Decidable (fragRun st ops)
  | _, [] => isTrue trivial
  | st, op :: r => @instDecidableAnd _ _ inferInstance (fragRun.decidable (step st op).1 r)

theorem WF.step {st : St} (h : WF st) (op : Op) (hf : fragOk st op) : WF (Mmmbbb.step st op).1 := by
  cases op with
  | advance d => exact h.of_quiet (advance_quiet hf)
  | createTopic n l i => exact h.of_quiet createTopic_quiet
  | deleteTopic n => exact h.of_quiet deleteTopic_quiet
  | snapshot n s l i => exact h.of_quiet snapshot_quiet
  | deleteSnap n => exact h.of_quiet deleteSnap_quiet
  | createSub p i =>
    obtain ⟨hnow, hdels, hok, hr, hdl⟩ := createSub_step st p i h.ref
    refine WF.mk' (h.inv.step hok.1) hr ?_ (hdl hf h.noDL)
    rw [hdels, hnow]; exact h.clk
  | deleteSub n => exact h.of_quiet deleteSub_quiet
  | expireSubs mx v => exact h.of_quiet expireSubs_quiet
  | publish t tick ms =>
    simp only [Mmmbbb.step]
    cases hp : publish st.db st.now t tick ms with
    | error e => exact h
    | ok o =>
      obtain ⟨_, db', wakes, _, hl, rfl⟩ := publish_ok hp
      exact publishLoop_ind (fun db now => WF ⟨db, now⟩) (fun h1 hw => hw.publishOne h1 hf) hl h
  | pull sn mx mb strict wait obs => exact h.of_quiet (pull_quiet_noDL hf h.noDL h.uniqLive h.inv.uniq)
  | ack ids => exact h.of_quiet (ack_quiet hf)
  | delay ids d => exact h.of_quiet delay_quiet
  | nack ids ds fw => exact h.of_quiet (nack_quiet_noDL h.noDL)
  | pruneCompletedDeliveries a mx v => exact h.of_shrink (pruneCompletedDeliveries_shrink h.inv.uniq)
  | pruneExpiredDeliveries mx v => exact h.of_shrink (pruneExpiredDeliveries_shrink h.inv.uniq)
  | setDelay n d => exact h.of_quiet setDelay_quiet
  | dlSweep mx v fw => exact h.of_quiet (dlSweep_quiet_noDL h.noDL)
  | pruneCompletedMessages a mx v => exact h.of_quiet pruneCompletedMessages_quiet
  | pruneDeletedSubDeliveries a mx v => exact h.of_shrink (pruneDeletedSubDeliveries_shrink h.inv.uniq h.uqA)
  | pruneDeletedSubs a mx v => exact h.of_quiet pruneDeletedSubs_quiet
  | pruneDeletedTopics a mx v => exact h.of_quiet pruneDeletedTopics_quiet
  | _ => exact absurd hf (by simp [fragOk])

theorem WF.run : ∀ (ops : List Op) (st : St), WF st → fragRun st ops → WF (Mmmbbb.run st ops)
  | [], _, h, _ => h
  | op :: r, _, h, hf => WF.run r _ (h.step op hf.1) hf.2

/-- the invariant of the fragment `fragOkDL`: `Ord2.Inv2` and referential integrity (`Ref`) -/
structure WF2 (st : St) : Prop where
  inv : Inv2 st.db st.now
  uqA : ∀ a ∈ st.db.subs, ∀ b ∈ st.db.subs, a.id = b.id → a = b
  fk  : ∀ d ∈ st.db.dels, RowValid st.db d

theorem WF2.ref {st : St} (h : WF2 st) : Ref st.db := ⟨h.uqA, h.fk⟩

theorem WF2.mk' {st : St} (inv : Inv2 st.db st.now) (r : Ref st.db) : WF2 st := ⟨inv, r.uniq, r.fk⟩

theorem WF2.uniqLive {st : St} (h : WF2 st) : UniqLive st.db := h.ref.uniqLive

theorem WF2.init : WF2 {} := by
  refine ⟨Inv2.init 0, ?_, ?_⟩ <;> intro x hx <;> cases hx

theorem WF2.of_quiet {st st' : St} (h : WF2 st) (q : Quiet st st') : WF2 st' :=
  .mk' (h.inv.step q.refines2) (q.ref h.ref)

theorem WF2.of_shrink {st st' : St} {v : List Id} (h : WF2 st) (ht : tieClosed st.db v = true)
    (hs : st' = st ∨ Shrink st st' v) : WF2 st' := by
  rcases hs with rfl | hs
  · exact h
  · exact .mk' (h.inv.step (hs.refines2 ht)) (hs.ref h.ref)

theorem WF2.of_keeps {st : St} {db' : Db} {now' : Time} (h : WF2 st) (hk : Inv2 db' now' ∧ (Ref st.db → Ref db')) :
    WF2 ⟨db', now'⟩ :=
  .mk' hk.1 (hk.2 h.ref)

theorem WF2.publishOne {db db1 : Db} {t : Topic} {now : Time} {pm : PubMsg} {w : List Id} {tick : Int}
    (h : WF2 ⟨db, now⟩) (h1 : publishOne db t now pm = .ok (db1, w)) (htick : 0 ≤ tick) : WF2 ⟨db1, now + tick⟩ := by
  obtain ⟨m, db0, rfl, hmsg, hk, hdel⟩ := publishOne_enqueue h1 fun d hd => (h.fk d hd).1
  have hok := enqueue_stepOk2 (db0 := db) hdel rfl rfl hk hmsg (fun s hs => liveSubsOf_mem hs) h.uniqLive h.inv.uniq h.inv.past
  exact (WF2.mk' (h.inv.step hok) (Ref.of_publishOne h1 h.ref) : WF2 ⟨db1, now⟩).of_quiet
    (Quiet.of_same rfl rfl rfl (Int.le_add_of_nonneg_right htick))

def fragRunDL : St → List Op → Prop
  | _, [] => True
  | st, op :: r => fragOkDL st op ∧ fragRunDL (Mmmbbb.step st op).1 r

instance fragRunDL.decidable : ∀ (st : St) (ops : List Op), Decidable (fragRunDL st ops)
  | _, [] => isTrue trivial
  | st, op :: r => @instDecidableAnd _ _ inferInstance (fragRunDL.decidable (Mmmbbb.step st op).1 r)

theorem WF2.step {st : St} (h : WF2 st) (op : Op) (hf : fragOkDL st op) : WF2 (Mmmbbb.step st op).1 := by
  cases op with
  | advance d => exact h.of_quiet (advance_quiet hf)
  | createTopic n l i => exact h.of_quiet createTopic_quiet
  | deleteTopic n => exact h.of_quiet deleteTopic_quiet
  | createSub p i =>
    obtain ⟨_, _, hok, hr, _⟩ := createSub_step st p i h.ref
    exact .mk' (h.inv.step hok.2) hr
  | deleteSub n => exact h.of_quiet deleteSub_quiet
  | expireSubs mx v => exact h.of_quiet expireSubs_quiet
  | snapshot n s l i => exact h.of_quiet snapshot_quiet
  | deleteSnap n => exact h.of_quiet deleteSnap_quiet
  | setDelay n d => exact h.of_quiet setDelay_quiet
  | publish t tick ms =>
    simp only [Mmmbbb.step]
    cases hp : publish st.db st.now t tick ms with
    | error e => exact h
    | ok o =>
      obtain ⟨_, db', wakes, _, hl, rfl⟩ := publish_ok hp
      exact publishLoop_ind (fun db now => WF2 ⟨db, now⟩) (fun h1 hw => hw.publishOne h1 hf) hl h
  | pull sn mx mb strict wait obs =>
    simp only [Mmmbbb.step]
    cases hp : pull st.db st.now sn mx mb strict wait obs with
    | error e => exact h
    | ok r => exact h.of_keeps (pull_keeps_order hp hf h.inv h.uniqLive)
  | ack ids => exact h.of_quiet (ack_quiet hf)
  | nack ids ds fw =>
    simp only [Mmmbbb.step]
    cases hc : nack st.db st.now ids ds fw with
    | error e => exact h
    | ok o => exact h.of_keeps (nack_keeps_order hc h.inv h.uniqLive)
  | delay ids d => exact h.of_quiet delay_quiet
  | dlSweep mx v fw =>
    simp only [Mmmbbb.step]
    cases hc : dlSweep st.db st.now mx v fw with
    | error e => exact h
    | ok o => exact h.of_keeps (dlSweep_keeps_order hc h.inv h.uniqLive)
  | pruneCompletedDeliveries a mx v => exact h.of_shrink hf (pruneCompletedDeliveries_shrink h.inv.uniq)
  | pruneExpiredDeliveries mx v => exact h.of_shrink hf (pruneExpiredDeliveries_shrink h.inv.uniq)
  | pruneDeletedSubDeliveries a mx v => exact h.of_shrink hf (pruneDeletedSubDeliveries_shrink h.inv.uniq h.uqA)
  | pruneCompletedMessages a mx v => exact h.of_quiet pruneCompletedMessages_quiet
  | pruneDeletedSubs a mx v => exact h.of_quiet pruneDeletedSubs_quiet
  | pruneDeletedTopics a mx v => exact h.of_quiet pruneDeletedTopics_quiet
  | seekTime sn t => exact absurd hf (by simp [fragOkDL])
  | seekSnap sn n => exact absurd hf (by simp [fragOkDL])

theorem WF2.run : ∀ (ops : List Op) (st : St), WF2 st → fragRunDL st ops → WF2 (Mmmbbb.run st ops)
  | [], _, h, _ => h
  | op :: r, _, h, hf => WF2.run r _ (h.step op hf.1) hf.2

end Mmmbbb

/-
Every operation of the store except the two seeks, seen from ordered delivery.

An operation that appends no delivery row and removes none is `Quiet`: it satisfies both ordering
obligations (`Ord.stepOk`, `Ord2.stepOk2`) and keeps referential integrity (`Ref`), so one lemma per
such operation serves the fragment with the clock assumption (`WF`) and the one without (`WF2`).
The others are the three jobs that delete delivery rows (`Shrink`) and the operations that dead-letter
(several appends and completions in one transaction: the loop invariant `DLInv`); the enqueueing of a
message is `Proofs/Enqueue.lean`.
-/
import Mmmbbb.Model.Step
import Mmmbbb.Proofs.Enqueue
import Mmmbbb.Proofs.Lease
namespace Mmmbbb
open Mmmbbb.Ord Mmmbbb.Ord2

def RowValid (db : Db) (x : Delivery) : Prop :=
  (db.msgById x.msgId).isSome = true ∧ ∃ s ∈ db.subs, s.id = x.subId

/-- referential integrity of the deliveries table, and unique subscription ids -/
structure Ref (db : Db) : Prop where
  uniq : ∀ a ∈ db.subs, ∀ b ∈ db.subs, a.id = b.id → a = b
  fk : ∀ d ∈ db.dels, RowValid db d

theorem Ref.uniqLive {db : Db} (r : Ref db) : UniqLive db := fun a ha b hb _ _ hid => r.uniq a ha b hb hid

def NoDL (db : Db) : Prop := ∀ s ∈ db.subs, ∀ d, s.dlTarget d = none

theorem NoDL.of_map {db db' : Db} (gs : Sub → Sub) (hs : db'.subs = db.subs.map gs)
    (hgs : ∀ s ∈ db.subs, SubKeep s (gs s)) (h : NoDL db) : NoDL db' := by
  intro s' hs' d
  rw [hs] at hs'
  obtain ⟨s, hsm, rfl⟩ := List.mem_map.mp hs'
  exact (hgs s hsm).noDL d (h s hsm d)

structure Quiet (st st' : St) : Prop where
  now  : st.now ≤ st'.now
  subs : subsOk st.db st'.db = true
  rows : rowsUpdOk st.db st.now st'.db st.db.dels st'.db.dels = true
  ref  : Ref st.db → Ref st'.db
  noDL : NoDL st.db → NoDL st'.db

theorem Quiet.refines {st st' : St} (q : Quiet st st') : stepOk true st.db st.now st'.db st'.now = true :=
  (stepOk_of_rows q.now q.subs q.rows).1

theorem Quiet.refines2 {st st' : St} (q : Quiet st st') : stepOk2 st.db st.now st'.db st'.now = true :=
  (stepOk_of_rows q.now q.subs q.rows).2

theorem Quiet.of_maps {st st' : St} (g : Delivery → Delivery) (gs : Sub → Sub)
    (hd : st'.db.dels = st.db.dels.map g) (hs : st'.db.subs = st.db.subs.map gs) (hm : st'.db.msgs = st.db.msgs)
    (hnow : st.now ≤ st'.now)
    (hg : ∀ d ∈ st.db.dels, rowUpdOk st.db st.now st'.db d (g d) = true)
    (hgs : ∀ s ∈ st.db.subs, SubKeep s (gs s)) : Quiet st st' := by
  refine ⟨hnow, subsOk_of_map gs hs hgs, hd ▸ rowsUpdOk_of_map g _ hg, fun r => ⟨?_, ?_⟩, NoDL.of_map gs hs hgs⟩
  · rw [hs]
    intro a ha b hb hid
    obtain ⟨a0, ha0, rfl⟩ := List.mem_map.mp ha
    obtain ⟨b0, hb0, rfl⟩ := List.mem_map.mp hb
    rw [r.uniq a0 ha0 b0 hb0 (by rw [← (hgs a0 ha0).id, ← (hgs b0 hb0).id]; exact hid)]
  · rw [hd]
    intro d hdm
    obtain ⟨d0, hd0, rfl⟩ := List.mem_map.mp hdm
    obtain ⟨h1, s0, hs0, hid⟩ := r.fk d0 hd0
    refine ⟨?_, gs s0, hs ▸ List.mem_map.mpr ⟨s0, hs0, rfl⟩, ?_⟩
    · rw [msgById_congr hm, (rowUpdOk_iff.mp (hg d0 hd0)).1]; exact h1
    · rw [(hgs s0 hs0).id, (rowUpd_of_ok (hg d0 hd0)).sub]; exact hid

theorem Quiet.of_same {st st' : St} (hd : st'.db.dels = st.db.dels) (hs : st'.db.subs = st.db.subs)
    (hm : st'.db.msgs = st.db.msgs) (hnow : st.now ≤ st'.now) : Quiet st st' :=
  Quiet.of_maps id id (by rw [hd, List.map_id]) (by rw [hs, List.map_id]) hm hnow
    (fun d _ => rowUpdOk_refl hm d) (fun s _ => SubKeep.refl s)

theorem Quiet.refl (st : St) : Quiet st st := Quiet.of_same rfl rfl rfl (Int.le_refl _)

theorem Quiet.finish {α} {st : St} {r : Except Err (TxOut α)} {render : α → String}
    (h : ∀ o, r = .ok o → Quiet st { st with db := o.db }) : Quiet st (finish st r render).1 := by
  cases r with
  | error e => exact Quiet.refl st
  | ok o => exact h o rfl

theorem advance_quiet {st : St} {d : Int} (hd : 0 ≤ d) : Quiet st (step st (.advance d)).1 :=
  Quiet.of_same rfl rfl rfl (Int.le_add_of_nonneg_right hd)

theorem createTopic_quiet {st : St} {n : String} {l : StrMap} {i : Id} : Quiet st (step st (.createTopic n l i)).1 := by
  refine Quiet.finish fun o h => ?_
  obtain ⟨_, _, rfl⟩ := createTopic_ok h
  exact Quiet.of_same rfl rfl rfl (Int.le_refl _)

theorem deleteTopic_quiet {st : St} {n : String} : Quiet st (step st (.deleteTopic n)).1 := by
  refine Quiet.finish fun o h => ?_
  obtain ⟨_, _, _, rfl⟩ := deleteTopic_ok h
  exact Quiet.of_same rfl rfl rfl (Int.le_refl _)

theorem snapshot_quiet {st : St} {n s : String} {l : StrMap} {i : Id} : Quiet st (step st (.snapshot n s l i)).1 := by
  refine Quiet.finish fun o h => ?_
  obtain ⟨_, _, _, _, _, _, _, _, _, rfl⟩ := createSnapshot_ok h
  exact Quiet.of_same rfl rfl rfl (Int.le_refl _)

theorem deleteSnap_quiet {st : St} {n : String} : Quiet st (step st (.deleteSnap n)).1 := by
  refine Quiet.finish fun o h => ?_
  obtain ⟨_, rfl⟩ := deleteSnapshot_ok h
  exact Quiet.of_same rfl rfl rfl (Int.le_refl _)

theorem Quiet.of_updateSubs {st : St} {p : Sub → Bool} {f : Sub → Sub} (hf : ∀ s, SubKeep s (f s)) :
    Quiet st { st with db := { st.db with subs := updateWhere p f st.db.subs } } :=
  -- `(by rfl)`, here and below: a plain `rfl` is elaborated before the goal is known and identifies the two states
  Quiet.of_maps id _ (List.map_id _).symm rfl rfl (Int.le_refl _) (fun d _ => rowUpdOk_refl (by rfl) d)
    (fun s _ => SubKeep.ite (p s) (hf s))

theorem subKeep_deleted (s : Sub) (t : Time) : SubKeep s { s with deletedAt := some t } :=
  ⟨rfl, fun h => by simp [Sub.live] at h, fun _ h => h⟩

theorem deleteSub_quiet {st : St} {n : String} : Quiet st (step st (.deleteSub n)).1 := by
  refine Quiet.finish fun o h => ?_
  obtain ⟨_, _, _, rfl⟩ := deleteSub_ok h
  exact Quiet.of_updateSubs (fun s => subKeep_deleted s st.now)

theorem expireSubs_quiet {st : St} {mx : Nat} {v : List Id} : Quiet st (step st (.expireSubs mx v)).1 := by
  refine Quiet.finish fun o h => ?_
  obtain ⟨_, rfl⟩ := expireSubs_ok h
  exact Quiet.of_updateSubs (fun s => subKeep_deleted s st.now)

theorem setDelay_quiet {st : St} {n : String} {dl : Int} : Quiet st (step st (.setDelay n dl)).1 := by
  refine Quiet.finish fun o h => ?_
  obtain ⟨_, rfl⟩ := setDelay_ok h
  exact Quiet.of_updateSubs (fun s => ⟨rfl, fun hl => ⟨hl, rfl, rfl⟩, fun _ h => h⟩)

theorem pruneDeletedTopics_quiet {st : St} {a : Int} {mx : Nat} {v : List Id} :
    Quiet st (step st (.pruneDeletedTopics a mx v)).1 := by
  refine Quiet.finish fun o h => ?_
  obtain ⟨_, _, rfl⟩ := pruneDeletedTopics_ok h
  exact Quiet.of_same rfl rfl rfl (Int.le_refl _)

theorem Quiet.of_updateDels {st : St} {p : Delivery → Bool} {f : Delivery → Delivery}
    (hf : ∀ d ∈ st.db.dels, p d = true →
      rowUpdOk st.db st.now { st.db with dels := updateWhere p f st.db.dels } d (f d) = true) :
    Quiet st { st with db := { st.db with dels := updateWhere p f st.db.dels } } := by
  refine Quiet.of_maps _ id rfl (List.map_id _).symm rfl (Int.le_refl _) (fun d hd => ?_) (fun s _ => SubKeep.refl s)
  by_cases hp : p d = true
  · rw [if_pos hp]; exact hf d hd hp
  · rw [if_neg hp]; exact rowUpdOk_refl (by rfl) d

theorem ack_quiet {st : St} {ids : List Id} (hdel : ∀ d ∈ st.db.dels, ids.contains d.id = true → 0 < d.attempts) :
    Quiet st (step st (.ack ids)).1 := by
  refine Quiet.of_updateDels fun d hd hp => ?_
  simp only [Bool.and_eq_true] at hp
  exact rowUpdOk_complete (by rfl) d _ (hdel d hd hp.1)

theorem delay_quiet {st : St} {ids : List Id} {Δ : Int} : Quiet st (step st (.delay ids Δ)).1 := by
  refine Quiet.finish fun o h => ?_
  obtain ⟨p, _, rfl⟩ := delay_ok h
  exact Quiet.of_updateDels fun d _ _ => rowUpdOk_attemptAt (by rfl) d _

/-- Creating a subscription satisfies both obligations: the new row's id is fresh, so no delivery row
    refers to it.  (Not `Quiet`: the new subscription may come with a dead-letter policy.) -/
theorem createSub_step (st : St) (p : CreateSubParams) (i : Id) (r : Ref st.db) :
    let st' := (step st (.createSub p i)).1
    st'.now = st.now ∧ st'.db.dels = st.db.dels ∧
      (stepOk true st.db st.now st'.db st'.now = true ∧ stepOk2 st.db st.now st'.db st'.now = true) ∧ Ref st'.db ∧
      (p.maxAttempts = 0 → NoDL st.db → NoDL st'.db) := by
  simp only [step]
  cases h : createSub st.db st.now p i with
  | error e => exact ⟨rfl, rfl, ⟨(Quiet.refl st).refines, (Quiet.refl st).refines2⟩, r, fun _ h => h⟩
  | ok o =>
    obtain ⟨t, dlId, _, _, _, hfresh, hdb, _⟩ := createSub_ok h
    have hold : ∀ s ∈ st.db.subs, s.id ≠ i := by
      intro s hs heq
      have := allIds_of_sub hs
      rw [heq, hfresh] at this; cases this
    have hnew : ∀ d ∈ st.db.dels, d.subId ≠ i := by
      intro d hd heq
      obtain ⟨_, s0, hs0, hid⟩ := r.fk d hd
      exact hold s0 hs0 (hid.trans heq)
    have hdels : (finish st (.ok o) fun _ => "ok").1.db.dels = st.db.dels := by simp only [finish, hdb]
    refine ⟨rfl, hdels, stepOk_of_rows (Int.le_refl _) (subsOk_iff.mpr ?subs)
      (hdels ▸ rowsUpdOk_refl (by simp only [finish, hdb]) _), ⟨?uniq, ?fk⟩, fun hp hno => ?noDL⟩
    all_goals simp only [finish, hdb, NoDL, List.mem_append, List.mem_singleton]
    case subs =>
      rintro s' (hs' | rfl) hl
      · exact Or.inl ⟨s', hs', hl, rfl, rfl, rfl⟩
      · exact Or.inr hnew
    case uniq =>
      rintro a (ha | rfl) b (hb | rfl) hid
      · exact r.uniq a ha b hb hid
      · exact absurd hid (hold a ha)
      · exact absurd hid.symm (hold b hb)
      · rfl
    case fk =>
      intro d hd
      obtain ⟨h1, s0, hs0, hid⟩ := r.fk d hd
      exact ⟨h1, s0, List.mem_append_left _ hs0, hid⟩
    case noDL =>
      rintro s (hs | rfl) d
      · exact hno s hs d
      · simp [Sub.dlTarget, mkSub, hp]

/-- the job removes only messages no delivery row refers to -/
theorem pruneCompletedMessages_quiet {st : St} {a : Int} {mx : Nat} {v : List Id} :
    Quiet st (step st (.pruneCompletedMessages a mx v)).1 := by
  refine Quiet.finish fun o h => ?_
  obtain ⟨hlim, rfl⟩ := pruneCompletedMessages_ok h
  have hv := limitOk_victims hlim
  have hmsg : ∀ d ∈ st.db.dels,
      ({ st.db with msgs := st.db.msgs.filter fun m => !v.contains m.id } : Db).msgById d.msgId = st.db.msgById d.msgId := by
    intro d hd
    refine find?_filter_keep st.db.msgs _ _ fun m _ hq => ?_
    rw [Bool.not_eq_true', Bool.eq_false_iff]
    intro hc
    obtain ⟨r, hr, hp⟩ := hv m.id (List.contains_iff_mem.mp hc)
    exact forall_ne_of_not_any (Bool.and_eq_true_iff.mp hp).2 d hd (by rw [(msgById_mem hr).2, eq_of_beq hq])
  refine ⟨Int.le_refl _, subsOk_same rfl, rowsUpdOk_refl' _ fun d hd => ?_, fun r => ⟨r.uniq, fun d hd => ?_⟩, id⟩
  · exact keyOf_congr (hmsg d hd)
  · exact ⟨by rw [hmsg d hd]; exact (r.fk d hd).1, (r.fk d hd).2⟩

/-- the job removes only subscriptions no delivery row refers to -/
theorem pruneDeletedSubs_quiet {st : St} {a : Int} {mx : Nat} {v : List Id} :
    Quiet st (step st (.pruneDeletedSubs a mx v)).1 := by
  refine Quiet.finish fun o h => ?_
  obtain ⟨hlim, rfl⟩ := pruneDeletedSubs_ok h
  have hv := limitOk_victims hlim
  refine ⟨Int.le_refl _, subsOk_iff.mpr fun s' hs' hl => Or.inl ⟨s', (List.mem_filter.mp hs').1, hl, rfl, rfl, rfl⟩,
    rowsUpdOk_refl (by rfl) _, fun r => ⟨fun x hx y hy => r.uniq x (List.mem_filter.mp hx).1 y (List.mem_filter.mp hy).1, ?_⟩,
    fun hno s hs => hno s (List.mem_filter.mp hs).1⟩
  intro d hd
  obtain ⟨h1, s0, hs0, hid⟩ := r.fk d hd
  refine ⟨h1, s0, List.mem_filter.mpr ⟨hs0, ?_⟩, hid⟩
  rw [Bool.not_eq_true', Bool.eq_false_iff]
  intro hc
  obtain ⟨x, hx, hp⟩ := hv s0.id (List.contains_iff_mem.mp hc)
  exact forall_ne_of_not_any (Bool.and_eq_true_iff.mp hp).2 d hd (by rw [(subById_mem hx).2, hid])

theorem deleteDeliveries_dels (db : Db) (ids : List Id) :
    (deleteDeliveries db ids).dels = (db.dels.filter fun d => !ids.contains d.id).map (clr ids) := rfl

theorem removedIds_deleteDeliveries (db : Db) (victims : List Id) (i : Id) (hi : i ∈ db.dels.map (·.id)) :
    (removedIds db.dels (deleteDeliveries db victims).dels).contains i = victims.contains i := by
  have hany : ((deleteDeliveries db victims).dels.any fun x => x.id == i) = !victims.contains i := by
    rw [deleteDeliveries_dels, List.any_map, Bool.eq_iff_iff]
    simp only [List.any_eq_true, List.mem_filter, Function.comp, clr_eq, beq_iff_eq, Bool.not_eq_true',
      List.contains_eq_mem, decide_eq_false_iff_not]
    constructor
    · rintro ⟨d, ⟨_, hk⟩, rfl⟩; exact hk
    · intro hk
      obtain ⟨d, hd, rfl⟩ := List.mem_map.mp hi
      exact ⟨d, ⟨hd, hk⟩, rfl⟩
  unfold removedIds
  rw [Bool.eq_iff_iff, List.contains_iff_mem, List.mem_filter, hany]
  simp [hi]

theorem shrinkOk_deleteDeliveries (db : Db) (now : Time) (victims : List Id)
    (hex : ∀ v ∈ victims, v ∈ db.dels.map (·.id))
    (hdone : ∀ d ∈ db.dels, victims.contains d.id = true → d.isOpen now = false ∨ liveOrd db d.subId = false) :
    shrinkOk db now (deleteDeliveries db victims) = true := by
  have hR : ∀ i, (removedIds db.dels (deleteDeliveries db victims).dels).contains i = victims.contains i := fun i => by
    by_cases hi : i ∈ db.dels.map (·.id)
    · exact removedIds_deleteDeliveries db victims i hi
    · -- an id that is not in the table: neither list contains it
      rw [Bool.eq_false_iff.mpr fun hc => hi (hex i (List.contains_iff_mem.mp hc))]
      exact Bool.eq_false_iff.mpr fun hc => hi (List.mem_filter.mp (List.contains_iff_mem.mp hc)).1
  unfold shrinkOk
  simp only [Bool.and_eq_true, beq_iff_eq, List.all_eq_true, Bool.or_eq_true, Bool.not_eq_true', hR]
  refine ⟨⟨List.map_congr_left fun d _ => ?_, fun d hd => ?_⟩, fun d _ => Or.inr rfl⟩
  · show clr victims d = clr _ d
    simp only [clr_eq, hR]
  · cases hv : victims.contains d.id with
    | false => exact Or.inl (Or.inl rfl)
    | true => exact (hdone d hd hv).elim Or.inr (fun h => Or.inl (Or.inr h))

theorem tieClosed_of_victims {db : Db} {v : List Id} (h : tieClosed db v = true) :
    tieClosed db (removedIds db.dels (deleteDeliveries db v).dels) = true := by
  have hR : ∀ d ∈ db.dels, (removedIds db.dels (deleteDeliveries db v).dels).contains d.id = v.contains d.id :=
    fun d hd => removedIds_deleteDeliveries db v d.id (List.mem_map.mpr ⟨d, hd, rfl⟩)
  unfold tieClosed at h ⊢
  rw [List.all_eq_true] at h ⊢
  intro g hg
  have hgv := h g hg
  rw [hR g hg]
  simp only [Bool.or_eq_true, List.all_eq_true] at hgv ⊢
  exact hgv.imp_right fun h1 e he => by rw [hR e he]; exact h1 e he

structure Shrink (st st' : St) (victims : List Id) : Prop where
  eq : st' = { st with db := deleteDeliveries st.db victims }
  ok : shrinkOk st.db st.now (deleteDeliveries st.db victims) = true

theorem Shrink.refines {st st' : St} {v : List Id} (h : Shrink st st' v) :
    stepOk true st.db st.now st'.db st'.now = true := by
  rw [h.eq]
  exact stepOk_iff.mpr ⟨Int.le_refl _, subsOk_same rfl, Or.inr h.ok⟩

theorem Shrink.refines2 {st st' : St} {v : List Id} (h : Shrink st st' v) (ht : tieClosed st.db v = true) :
    stepOk2 st.db st.now st'.db st'.now = true := by
  rw [h.eq]
  exact stepOk2_iff.mpr
    ⟨Int.le_refl _, subsOk_same rfl, Or.inr (Bool.and_eq_true_iff.mpr ⟨h.ok, tieClosed_of_victims ht⟩)⟩

theorem mem_deleteDeliveries {db : Db} {v : List Id} {d : Delivery} (hd : d ∈ (deleteDeliveries db v).dels) :
    ∃ d0 ∈ db.dels, d = clr v d0 := by
  rw [deleteDeliveries_dels] at hd
  obtain ⟨d0, hd0, rfl⟩ := List.mem_map.mp hd
  exact ⟨d0, (List.mem_filter.mp hd0).1, rfl⟩

theorem Shrink.ref {st st' : St} {v : List Id} (h : Shrink st st' v) (r : Ref st.db) : Ref st'.db := by
  rw [h.eq]
  refine ⟨r.uniq, fun d hd => ?_⟩
  obtain ⟨d0, hd0, rfl⟩ := mem_deleteDeliveries hd
  have := r.fk d0 hd0
  unfold RowValid at this ⊢
  rwa [clr_eq]

/-- The `let` is what `step` unfolds to for each of the three jobs, so that they apply this by
    unification, without opening the action. -/
theorem Shrink.of_limitOk {st : St} {cand : Delivery → Bool} {v : List Id} {mx : Nat} {w : List Id}
    {render : Nat → String} {msg : String} (huniq : (st.db.dels.map (·.id)).Nodup)
    (hcand : ∀ r ∈ st.db.dels, cand r = true → r.isOpen st.now = false ∨ liveOrd st.db r.subId = false) :
    let st' := (finish st (if (!limitOk st.db.dels st.db.delById cand v mx) = true then badObs msg
      else .ok { db := deleteDeliveries st.db v, wakes := w, val := v.length }) render).1
    st' = st ∨ Shrink st st' v := by
  intro st'
  by_cases hlim : limitOk st.db.dels st.db.delById cand v mx = true
  · have hv := limitOk_victims hlim
    right
    have heq : st' = { st with db := deleteDeliveries st.db v } := by simp [st', hlim, finish]
    refine ⟨heq, shrinkOk_deleteDeliveries _ _ _ (fun x hx => ?_) (fun d hd hc => ?_)⟩
    · obtain ⟨r, hr, _⟩ := hv x hx
      exact List.mem_map.mpr ⟨r, delById_mem hr⟩
    · obtain ⟨r, hr, hp⟩ := hv d.id (List.contains_iff_mem.mp hc)
      obtain ⟨hm, hid⟩ := delById_mem hr
      obtain rfl : r = d := eq_of_nodup_ids huniq hm hd hid
      exact hcand r hd hp
  · left
    simp [st', hlim, finish, badObs]

theorem pruneCompletedDeliveries_shrink {st : St} {a : Int} {mx : Nat} {v : List Id}
    (huniq : (st.db.dels.map (·.id)).Nodup) :
    (step st (.pruneCompletedDeliveries a mx v)).1 = st ∨ Shrink st (step st (.pruneCompletedDeliveries a mx v)).1 v := by
  refine Shrink.of_limitOk huniq fun r _ hp => Or.inl (isOpen_false_iff.mpr (Or.inl ?_))
  cases hc : r.completedAt with
  | none => rw [hc] at hp; cases hp
  | some c => rfl

theorem pruneExpiredDeliveries_shrink {st : St} {mx : Nat} {v : List Id} (huniq : (st.db.dels.map (·.id)).Nodup) :
    (step st (.pruneExpiredDeliveries mx v)).1 = st ∨ Shrink st (step st (.pruneExpiredDeliveries mx v)).1 v := by
  refine Shrink.of_limitOk huniq fun r _ hp => Or.inl (isOpen_false_iff.mpr (Or.inr ?_))
  exact Int.le_of_lt (by simpa using hp)

/-- the rows this job removes may be outstanding, but they belong to no live subscription -/
theorem pruneDeletedSubDeliveries_shrink {st : St} {a : Int} {mx : Nat} {v : List Id}
    (huniq : (st.db.dels.map (·.id)).Nodup) (huqA : ∀ a ∈ st.db.subs, ∀ b ∈ st.db.subs, a.id = b.id → a = b) :
    (step st (.pruneDeletedSubDeliveries a mx v)).1 = st ∨ Shrink st (step st (.pruneDeletedSubDeliveries a mx v)).1 v := by
  refine Shrink.of_limitOk huniq fun r _ hp => Or.inr (Bool.eq_false_iff.mpr fun hlo => ?_)
  obtain ⟨s, hs, hid, hlive, _⟩ := liveOrd_iff.mp hlo
  cases hsb : st.db.subById r.subId with
  | none => rw [hsb] at hp; cases hp
  | some s0 =>
    obtain ⟨hs0, hid0⟩ := subById_mem hsb
    obtain rfl : s0 = s := huqA s0 hs0 s hs (hid0.trans hid.symm)
    unfold Sub.live at hlive
    rw [hsb, Option.bind_some] at hp
    cases hda : s0.deletedAt with
    | none => rw [hda] at hp; cases hp
    | some _ => rw [hda] at hlive; cases hlive

theorem Ref.of_deliverAll {db db' : Db} {subs : List Sub} {m : Msg} {now : Time} {fwds : List Fwd} {w : List Id}
    (h : deliverAll db subs m now fwds = .ok (db', w)) (hmsg : db.msgById m.id = some m)
    (hsubs : ∀ s ∈ subs, s ∈ db.subs) (r : Ref db) : Ref db' := by
  obtain ⟨rows, hrows, rfl, _⟩ := deliverAll_shape h
  refine ⟨r.uniq, fun x hx => ?_⟩
  rcases List.mem_append.mp hx with hx | hx
  · exact r.fk x hx
  · obtain ⟨s, f, hs, _, _, rfl⟩ := (mkRows_spec _ _ _ _ _ _ hrows).2.2 x hx
    exact ⟨Option.isSome_iff_exists.mpr ⟨m, hmsg⟩, s, hsubs s hs, rfl⟩

theorem Ref.of_publishOne {db db' : Db} {t : Topic} {now : Time} {pm : PubMsg} {w : List Id}
    (h : publishOne db t now pm = .ok (db', w)) (r : Ref db) : Ref db' := by
  obtain ⟨m, db1, rfl, hmsg, _, hdel⟩ := publishOne_enqueue h fun d hd => (r.fk d hd).1
  refine Ref.of_deliverAll hdel hmsg (fun s hs => (liveSubsOf_mem hs).1) ⟨r.uniq, fun d hd => ?_⟩
  obtain ⟨h1, h2⟩ := r.fk d hd
  cases hx : db.msgById d.msgId with
  | none => rw [hx] at h1; cases h1
  | some x => exact ⟨by rw [msgById_append_of_some hx]; rfl, h2⟩

/-- `C05_deadLetter_keeps_order`, with referential integrity.  The forward is an enqueueing — the
    forwarded rows are stamped with the instant of the transaction, which earlier forwards of the same
    transaction share —, the retirement of the source row a completion of a delivery that has been
    handed out. -/
theorem deadLetter_keeps_order {db : Db} {d : Delivery} {dlt : Id} {now : Time} {fwds : List Fwd}
    {db' : Db} {w : List Id} (h : deadLetter db d dlt now fwds = .ok (db', w))
    (hinv : Inv2 db now) (huniq : UniqLive db) (hd : d ∈ db.dels) (hatt : 0 < d.attempts) :
    Inv2 db' now ∧ (Ref db → Ref db') := by
  obtain ⟨db1, w1, hf, _, rfl, _⟩ := deadLetter_ok h
  have h1 : (Inv2 db1 now ∧ d ∈ db1.dels) ∧ (Ref db → Ref db1) := by
    rcases dlForward_ok hf with ⟨_, rfl, _⟩ | ⟨t, m, _, hm, hdel⟩
    · exact ⟨⟨hinv, hd⟩, id⟩
    · obtain ⟨rows, _, e1, _⟩ := deliverAll_shape hdel
      have hmsg : db.msgById m.id = some m := by rw [(msgById_mem hm).2]; exact hm
      exact ⟨⟨hinv.step (enqueue_stepOk2 hdel rfl rfl (fun _ _ => rfl) hmsg (fun s hs => liveSubsOf_mem hs) huniq
        hinv.uniq hinv.past), e1 ▸ List.mem_append_left _ hd⟩,
        Ref.of_deliverAll hdel hmsg fun s hs => (liveSubsOf_mem hs).1⟩
  have q : Quiet ⟨db1, now⟩ ⟨{ db1 with dels := markCompleted d.id now db1.dels }, now⟩ := by
    refine Quiet.of_updateDels fun x hx hxd => ?_
    obtain rfl : x = d := eq_of_nodup_ids h1.1.1.uniq hx h1.1.2 (by simpa using hxd)
    exact rowUpdOk_complete (by rfl) x now hatt
  exact ⟨h1.1.1.step q.refines2, fun r => q.ref (h1.2 r)⟩

theorem dlTarget_attempts {s : Sub} {d : Delivery} {t : Id} (h : s.dlTarget d = some t) : 0 < d.attempts := by
  obtain ⟨n, _, _, h1, h2⟩ := (dlTarget_iff s d t).mp h
  omega

/-- What the three loops that dead-letter keep, round by round: the ordering invariant and, if it held
    at the start (`R`), referential integrity; the rows still to be handled are distinct and are in the
    table, unchanged, when their turn comes. -/
structure DLInv (now : Time) (R : Prop) (rest : List Delivery) (db : Db) : Prop where
  inv : Inv2 db now
  uniqLive : UniqLive db
  nodup : (rest.map (·.id)).Nodup
  find : ∀ c ∈ rest, findDel db.dels c.id = some c
  ref : R → Ref db

theorem DLInv.skip {now : Time} {R : Prop} {d : Delivery} {r : List Delivery} {db : Db} (h : DLInv now R (d :: r) db) :
    DLInv now R r db :=
  ⟨h.inv, h.uniqLive, (List.nodup_cons.mp h.nodup).2, fun c hc => h.find c (List.mem_cons_of_mem _ hc), h.ref⟩

theorem DLInv.of_deadLetter {now : Time} {R : Prop} {d : Delivery} {r : List Delivery} {db db' : Db} {dlt : Id}
    {fw : List Fwd} {w : List Id} (h : DLInv now R (d :: r) db) (hdl : deadLetter db d dlt now fw = .ok (db', w))
    (hatt : 0 < d.attempts) : DLInv now R r db' := by
  have hnd := List.nodup_cons.mp h.nodup
  have k := deadLetter_keeps_order hdl h.inv h.uniqLive (List.mem_of_find?_eq_some (h.find d List.mem_cons_self)) hatt
  refine ⟨k.1, by unfold UniqLive; rw [(deadLetter_other hdl).2.1]; exact h.uniqLive, hnd.2, fun c hc => ?_,
    fun hR => k.2 (h.ref hR)⟩
  exact deadLetter_keeps hdl (fun heq => hnd.1 (List.mem_map.mpr ⟨c, hc, heq.symm⟩)) (h.find c (List.mem_cons_of_mem _ hc))

theorem DLInv.of_setAttemptAt {now : Time} {R : Prop} {d : Delivery} {r : List Delivery} {db : Db} (t : Time)
    (h : DLInv now R (d :: r) db) : DLInv now R r { db with dels := setAttemptAt d.id t db.dels } := by
  have hnd := List.nodup_cons.mp h.nodup
  have q : Quiet ⟨db, now⟩ ⟨{ db with dels := setAttemptAt d.id t db.dels }, now⟩ :=
    Quiet.of_updateDels fun x _ _ => rowUpdOk_attemptAt (by rfl) x _
  refine ⟨h.inv.step q.refines2, h.uniqLive, hnd.2, fun c hc => ?_, fun hR => q.ref (h.ref hR)⟩
  show findDel (setAttemptAt d.id t db.dels) c.id = some c
  unfold setAttemptAt
  rw [findDel_updateWhere_ne db.dels (fun y => y.id == d.id) (fun y => { y with attemptAt := t }) c.id (fun _ => rfl)
    fun x hx => by
      have : x.id ≠ d.id := hx ▸ fun heq => hnd.1 (List.mem_map.mpr ⟨c, hc, heq⟩)
      simpa using this]
  exact h.find c (List.mem_cons_of_mem _ hc)

theorem DLInv.start {now : Time} {R : Prop} {rows : List Delivery} {db : Db} (hinv : Inv2 db now) (huniq : UniqLive db)
    (hnd : (rows.map (·.id)).Nodup) (hmem : ∀ c ∈ rows, c ∈ db.dels) (hR : R → Ref db) : DLInv now R rows db :=
  ⟨hinv, huniq, hnd, fun c hc => delById_of_mem hinv.uniq (hmem c hc), hR⟩

theorem sweepCand_dlTarget {db : Db} {now : Time} {d : Delivery} (h : sweepCand db now d = true) :
    ∃ s dlt, db.subById d.subId = some s ∧ s.dlTarget d = some dlt := by
  obtain ⟨_, _, _, s, n, dlt, hs, _, hm, hd, hpos, hle⟩ := sweepCand_spec h
  exact ⟨s, dlt, hs, (dlTarget_iff s d dlt).mpr ⟨n, hm, hd, hpos, hle⟩⟩

/-- `C05_sweep_keeps_order`, with referential integrity -/
theorem dlSweep_keeps_order {db : Db} {now : Time} {mx : Nat} {victims : List Id} {fwds : List (Id × List Fwd)}
    {o : TxOut Nat} (h : dlSweep db now mx victims fwds = .ok o) (hinv : Inv2 db now) (huniq : UniqLive db) :
    Inv2 o.db now ∧ (Ref db → Ref o.db) := by
  obtain ⟨hlim, rows, db1, wakes, hrows, hloop, rfl⟩ := dlSweep_ok h
  obtain ⟨hnd, _, hv⟩ := limitOk_spec hlim
  obtain ⟨hids, hlook⟩ := lookupAll_delById hrows
  have hrow : ∀ c ∈ rows, c ∈ db.dels ∧ 0 < c.attempts := by
    intro c hc
    obtain ⟨x, hx, hp⟩ := hv c.id (hids ▸ List.mem_map.mpr ⟨c, hc, rfl⟩)
    obtain rfl : x = c := Option.some.inj (hx.symm.trans (hlook c hc))
    obtain ⟨s, dlt, _, hdlt⟩ := sweepCand_dlTarget hp
    exact ⟨(delById_mem hx).1, dlTarget_attempts hdlt⟩
  have := sweepLoop_ind (fun r db' => DLInv now (Ref db) r db' ∧ ∀ c ∈ r, 0 < c.attempts)
    (fun d _ _ hdl hp => ⟨hp.1.of_deadLetter hdl (hp.2 d List.mem_cons_self),
      fun c hc => hp.2 c (List.mem_cons_of_mem _ hc)⟩)
    hloop
    ⟨DLInv.start hinv huniq (hids ▸ hnd) (fun c hc => (hrow c hc).1) id, fun c hc => (hrow c hc).2⟩
  exact ⟨this.1.inv, this.1.ref⟩

/-- `C05_nack_keeps_order`, with referential integrity -/
theorem nack_keeps_order {db : Db} {now : Time} {ids : List Id} {delays : List (Id × Int)}
    {fwds : List (Id × List Fwd)} {o : TxOut (Nat × Nat)}
    (h : nack db now ids delays fwds = .ok o) (hinv : Inv2 db now) (huniq : UniqLive db) :
    Inv2 o.db now ∧ (Ref db → Ref o.db) := by
  obtain ⟨_, acc, rfl, hloop, rfl⟩ := nack_ok h
  have hperm := perm_sortById (db.dels.filter fun d => ids.contains d.id && d.isOpen now)
  have := nackLoop_ind (fun r acc => DLInv now (Ref db) r acc.db)
    (fun _ _ _ hdlt hdl hp => hp.of_deadLetter hdl (dlTarget_attempts hdlt))
    (fun _ _ _ _ _ _ hp => hp.of_setAttemptAt _) hloop
    (DLInv.start hinv huniq
      (((hperm.map (·.id)).nodup_iff).mpr (List.Nodup.sublist (List.Sublist.map _ List.filter_sublist) hinv.uniq))
      (fun c hc => (List.mem_filter.mp ((hperm.mem_iff).mp hc)).1) id)
  exact ⟨this.inv, this.ref⟩

/-- where no subscription has a dead-letter policy a nack only moves next-attempt times -/
theorem nack_quiet_noDL {st : St} {ids : List Id} {delays : List (Id × Int)} {fwds : List (Id × List Fwd)}
    (hno : NoDL st.db) : Quiet st (step st (.nack ids delays fwds)).1 := by
  refine Quiet.finish fun o h => ?_
  obtain ⟨_, acc, rfl, hloop, rfl⟩ := nack_ok h
  obtain ⟨g, hg, hdb⟩ := nackLoop_ind
    (fun _ acc => ∃ g, (∀ x, ∃ t, g x = { x with attemptAt := t }) ∧ acc.db = { st.db with dels := st.db.dels.map g })
    (fun d _ hs hdlt _ hp => by
      obtain ⟨g, _, hdb⟩ := hp
      rw [hdb] at hs
      rw [hno _ (subById_mem hs).1 d] at hdlt; cases hdlt)
    (fun d _ δ _ _ _ hp => by
      obtain ⟨g, hg, hdb⟩ := hp
      refine ⟨fun x => (fun y => if (y.id == d.id) = true then { y with attemptAt := st.now + δ } else y) (g x), fun x => ?_, ?_⟩
      · obtain ⟨t, ht⟩ := hg x
        simp only [ht]
        split
        · exact ⟨_, rfl⟩
        · exact ⟨_, rfl⟩
      · rw [hdb]
        simp only [setAttemptAt, updateWhere, List.map_map]
        rfl)
    hloop ⟨id, fun x => ⟨_, rfl⟩, by rw [List.map_id]⟩
  rw [hdb]
  refine Quiet.of_maps g id rfl (List.map_id _).symm rfl (Int.le_refl _) (fun d _ => ?_) (fun s _ => SubKeep.refl s)
  obtain ⟨t, ht⟩ := hg d
  rw [ht]; exact rowUpdOk_attemptAt (by rfl) d t

/-- where no subscription has a dead-letter policy the dead-letter sweep has no candidates -/
theorem dlSweep_quiet_noDL {st : St} {mx : Nat} {v : List Id} {fw : List (Id × List Fwd)} (hno : NoDL st.db) :
    Quiet st (step st (.dlSweep mx v fw)).1 := by
  refine Quiet.finish fun o h => ?_
  obtain ⟨hlim, rows, db', wakes, hrows, hloop, rfl⟩ := dlSweep_ok h
  obtain rfl : v = [] := by
    cases v with
    | nil => rfl
    | cons x r =>
      obtain ⟨d, _, hp⟩ := limitOk_victims hlim x List.mem_cons_self
      obtain ⟨s, dlt, hsb, hdlt⟩ := sweepCand_dlTarget hp
      rw [hno s (subById_mem hsb).1 d] at hdlt; cases hdlt
  simp only [lookupAll, Option.some.injEq] at hrows
  subst hrows
  simp only [sweepLoop, Except.ok.injEq, Prod.mk.injEq] at hloop
  rw [← hloop.1]
  exact Quiet.refl st

/-- `pull_ok` (Proofs/Shape.lean) with the candidate checks digested -/
theorem pull_ok_shape {db : Db} {now : Time} {sn : String} {mx mb : Nat} {strict : Bool} {wait : Int} {obs : PullObs}
    {o : TxOut PullRes} {now' : Time} (h : pull db now sn mx mb strict wait obs = .ok (o, now')) :
    ∃ s, db.liveSubByName sn = some s ∧
      ((now' = now + wait ∧ o.db = refreshExpiry (refreshExpiry db s now) s (now + wait)) ∨
       (now' = now ∧ ∃ cands acc,
          (∀ c ∈ cands, c ∈ db.dels ∧ (refreshExpiry db s now).eligible s now c = true) ∧
          pullLoop s now mb strict obs 0 cands
            { db := refreshExpiry (refreshExpiry db s now) s now, bytes := 0, delivered := [], numDL := 0, wakes := [] } = .ok acc ∧
          o.db = { acc.db with dels := applyLeases now acc.delivered acc.db.dels })) := by
  obtain ⟨s, cands, hs, hlk, hok, hcase⟩ := pull_ok h
  refine ⟨s, hs, ?_⟩
  rcases hcase with ⟨_, hn, rfl⟩ | ⟨_, hn, acc, hloop, rfl⟩
  · exact Or.inl ⟨hn, rfl⟩
  · exact Or.inr ⟨hn, cands, acc, fun c hc => ⟨(delById_mem ((lookupAll_delById hlk).2 c hc)).1, (candsOk_spec hok).2.2 c hc⟩,
      hloop, rfl⟩

theorem subKeep_expiresAt (s : Sub) (t : Time) : SubKeep s { s with expiresAt := t } :=
  ⟨rfl, fun hl => ⟨hl, rfl, rfl⟩, fun _ h => h⟩

theorem refreshExpiry_subs (db : Db) (s : Sub) (t : Time) :
    (refreshExpiry db s t).subs = db.subs.map (fun x => if (x.id == s.id) = true then { x with expiresAt := t + s.ttl } else x) := rfl

theorem refresh2_subs (db : Db) (s : Sub) (t1 t2 : Time) :
    ∃ gs, (refreshExpiry (refreshExpiry db s t1) s t2).subs = db.subs.map gs ∧ ∀ x, SubKeep x (gs x) :=
  ⟨fun x => (fun y => if (y.id == s.id) = true then { y with expiresAt := t2 + s.ttl } else y)
      ((fun y => if (y.id == s.id) = true then { y with expiresAt := t1 + s.ttl } else y) x),
    by rw [refreshExpiry_subs, refreshExpiry_subs, List.map_map]; rfl,
    fun x => (SubKeep.ite _ (subKeep_expiresAt x _)).trans (SubKeep.ite _ (subKeep_expiresAt _ _))⟩

theorem refresh2_quiet (db : Db) (s : Sub) (now t1 t2 now2 : Time) (hn : now ≤ now2) :
    Quiet ⟨db, now⟩ ⟨refreshExpiry (refreshExpiry db s t1) s t2, now2⟩ := by
  obtain ⟨gs, hgs, hk⟩ := refresh2_subs db s t1 t2
  exact Quiet.of_maps id gs (List.map_id _).symm hgs rfl hn (fun d _ => rowUpdOk_refl (by rfl) d) (fun x _ => hk x)

theorem predDone_mono {db db' : Db} (h : DelsMono db.dels db'.dels) (now : Time) (d : Delivery)
    (hp : db.predDone now d = true) : db'.predDone now d = true := by
  rcases predDone_iff.mp hp with hn | ⟨p, q, hnb, hq, hdone⟩
  · exact predDone_iff.mpr (.inl hn)
  · obtain ⟨q', hq', r⟩ := h p q hq
    exact predDone_iff.mpr (.inr ⟨p, q', hnb, hq', hdone.imp r.completed (r.expires ▸ ·)⟩)

theorem rowUpdOk_applyLease {db : Db} {now : Time} {db' : Db} (hm : db'.msgs = db.msgs)
    {delivered : List (Delivery × Int)} (huniq : (db.dels.map (·.id)).Nodup)
    (hmem : ∀ x ∈ delivered, x.1 ∈ db.dels)
    (hjust : ∀ x ∈ delivered, liveOrd db x.1.subId = true → db.predDone now x.1 = true) :
    ∀ d ∈ db.dels, rowUpdOk db now db' d (applyLease now delivered d) = true := by
  intro d hd
  unfold applyLease
  split
  · rename_i c δ hfind
    have hcm := List.mem_of_find?_eq_some hfind
    obtain rfl : c = d := eq_of_nodup_ids huniq (hmem _ hcm) hd (by simpa using List.find?_some hfind)
    exact rowUpdOk_lease db now db' hm c δ fun hlo _ => Or.inr (hjust _ hcm hlo)
  · exact rowUpdOk_refl hm d

theorem predDone_of_eligible {db : Db} {s : Sub} {now : Time} {c : Delivery} (hs : s ∈ db.subs) (hlive : s.live = true)
    (huniq : UniqLive db) (hel : db.eligible s now c = true) (hlo : liveOrd db c.subId = true) :
    db.predDone now c = true := by
  obtain ⟨s', hs', hid', hl', ho'⟩ := liveOrd_iff.mp hlo
  obtain rfl : s' = s := huniq s' hs' s hs hl' hlive (hid'.trans (Db.eligible_iff.mp hel).1)
  exact (Db.eligible_iff.mp hel).2.2.2.2 ho'

theorem pullLoop_noDL (s : Sub) (now : Time) (maxBytes : Nat) (strict : Bool) (obs : PullObs)
    (hnodl : ∀ d, s.dlTarget d = none) :
    ∀ (cands : List Delivery) (i : Nat) (acc acc' : PullAcc), pullLoop s now maxBytes strict obs i cands acc = .ok acc' →
      acc'.db = acc.db ∧ ∀ x ∈ acc'.delivered, x ∈ acc.delivered ∨ x.1 ∈ cands := by
  intro cands i acc acc' h
  exact ⟨pullLoop_ind (fun _ a => a.db = acc.db) (fun _ _ _ _ hp => hp)
      (fun d _ _ hdlt _ _ => by rw [hnodl d] at hdlt; cases hdlt) (fun _ _ _ _ _ _ hp => hp) h rfl,
    pullLoop_delivered h⟩

theorem pull_quiet_noDL {st : St} {sn : String} {mx mb : Nat} {strict : Bool} {wait : Int} {obs : PullObs}
    (hwait : 0 ≤ wait) (hno : NoDL st.db) (huniqS : UniqLive st.db) (huniqD : (st.db.dels.map (·.id)).Nodup) :
    Quiet st (step st (.pull sn mx mb strict wait obs)).1 := by
  simp only [step]
  cases hp : pull st.db st.now sn mx mb strict wait obs with
  | error e => exact Quiet.refl st
  | ok r =>
    obtain ⟨o, now'⟩ := r
    show Quiet st ⟨o.db, now'⟩
    obtain ⟨s, hs, ⟨rfl, hdb⟩ | ⟨rfl, cands, acc, hc, hloop, hdb⟩⟩ := pull_ok_shape hp
    · rw [hdb]
      exact refresh2_quiet st.db s st.now _ _ _ (Int.le_add_of_nonneg_right hwait)
    · obtain ⟨hsm, hslive⟩ := liveSubByName_mem hs
      obtain ⟨haccdb, hdel⟩ := pullLoop_noDL s st.now mb strict obs (hno s hsm) cands 0 _ acc hloop
      obtain ⟨gs, hgs, hk⟩ := refresh2_subs st.db s st.now st.now
      have hcand : ∀ x ∈ acc.delivered, x.1 ∈ cands := fun x hx => (hdel x hx).resolve_left List.not_mem_nil
      rw [hdb, haccdb]
      refine Quiet.of_maps (applyLease st.now acc.delivered) gs rfl hgs rfl (Int.le_refl _) ?_ (fun x _ => hk x)
      exact rowUpdOk_applyLease rfl huniqD (fun x hx => (hc _ (hcand x hx)).1)
        fun x hx => predDone_of_eligible hsm hslive huniqS (hc _ (hcand x hx)).2

/-- `C05_pull_keeps_order`, with referential integrity: the expiry refresh is quiet, the loop keeps
    `DLInv`, and the leases are justified because the predecessor of a candidate, done before the loop,
    stays done while it runs -/
theorem pull_keeps_order {db : Db} {now : Time} {sn : String} {mx mb : Nat} {strict : Bool} {wait : Int}
    {obs : PullObs} {o : TxOut PullRes} {now' : Time}
    (h : pull db now sn mx mb strict wait obs = .ok (o, now')) (hwait : 0 ≤ wait) (hinv : Inv2 db now)
    (huniq : UniqLive db) : Inv2 o.db now' ∧ (Ref db → Ref o.db) := by
  obtain ⟨s, cands, hs, hlk, hok, hcase⟩ := pull_ok h
  obtain ⟨_, hnd, helig⟩ := candsOk_spec hok
  have hmem : ∀ c ∈ cands, c ∈ db.dels := fun c hcm => (delById_mem ((lookupAll_delById hlk).2 c hcm)).1
  obtain ⟨hsm, hslive⟩ := liveSubByName_mem hs
  rcases hcase with ⟨_, hn, rfl⟩ | ⟨_, hn, acc, hloop, rfl⟩ <;> rw [hn]
  · have q := refresh2_quiet db s now now (now + wait) (now + wait) (Int.le_add_of_nonneg_right hwait)
    exact ⟨hinv.step q.refines2, q.ref⟩
  · have q := refresh2_quiet db s now now now now (Int.le_refl _)
    obtain ⟨gs, hgs, hk⟩ := refresh2_subs db s now now
    have start : DLInv now (Ref db) cands (refreshExpiry (refreshExpiry db s now) s now) :=
      DLInv.start (hinv.step q.refines2) (huniq.of_map gs hgs fun x _ => hk x) hnd hmem q.ref
    have hfin := pullLoop_ind (fun r a => DLInv now (Ref db) r a.db) (fun _ _ _ _ hp => hp.skip)
      (fun _ _ _ hdlt hdl hp => hp.of_deadLetter hdl (dlTarget_attempts hdlt)) (fun _ _ _ _ _ _ hp => hp.skip)
      hloop start
    obtain ⟨hmono, hother⟩ := pullLoop_rel rowRel_mono hloop
    have hcand : ∀ x ∈ acc.delivered, x.1 ∈ cands := fun x hx => (pullLoop_delivered hloop x hx).resolve_left List.not_mem_nil
    have hkeep := pullLoop_delivered_kept hloop rfl hnd start.find
    have q1 : Quiet ⟨acc.db, now⟩ ⟨{ acc.db with dels := applyLeases now acc.delivered acc.db.dels }, now⟩ := by
      refine Quiet.of_maps (applyLease now acc.delivered) id rfl (List.map_id _).symm rfl (Int.le_refl _) ?_
        (fun x _ => SubKeep.refl x)
      refine rowUpdOk_applyLease rfl hfin.inv.uniq (fun x hx => List.mem_of_find?_eq_some (hkeep x hx)) fun x hx hlo => ?_
      have hpd : db.predDone now x.1 = true := predDone_of_eligible hsm hslive huniq (helig _ (hcand x hx))
        (liveOrd_of_map gs (hother.2.1.trans hgs) (fun x _ => hk x) hlo)
      -- the loop completes rows, it re-opens none
      exact predDone_mono hmono now x.1 hpd
    exact ⟨hfin.inv.step q1.refines2, fun hr => q1.ref (hfin.ref hr)⟩

end Mmmbbb

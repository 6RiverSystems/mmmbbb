/-
Which changes of the tables satisfy the ordered-delivery obligations `Ord.stepOk` (Model/Ordered.lean)
and `Ord2.stepOk2` (Model/Ordered2.lean): rows updated in place, rows appended.  `Proofs/Enqueue.lean`
and `Proofs/Refines.lean` reduce the operations of the store to these shapes (and to `shrinkOk`, for
the jobs that delete rows).
-/
import Mmmbbb.Proofs.Ordered2
import Mmmbbb.Model.Actions
namespace Mmmbbb.Ord
open Mmmbbb.Ord2

/-- the key of a row depends on the tables only through the row's message -/
theorem keyOf_congr {db db' : Db} {d : Delivery} (h : db'.msgById d.msgId = db.msgById d.msgId) :
    keyOf db' d = keyOf db d := by
  unfold keyOf; rw [h]

theorem keyOf_congr_msgs {db db' : Db} (h : db'.msgs = db.msgs) (d : Delivery) : keyOf db' d = keyOf db d :=
  keyOf_congr (msgById_congr h _)

theorem liveOrd_congr_subs {db db' : Db} (h : db'.subs = db.subs) (x : Id) : liveOrd db' x = liveOrd db x := by
  unfold liveOrd; rw [h]

/-- `s'` is `s` rewritten in fields that neither obligation reads (deletion, expiry refresh, delay
    injection) -/
structure SubKeep (s s' : Sub) : Prop where
  id   : s'.id = s.id
  live : s'.live = true → s.live = true ∧ s'.ordered = s.ordered ∧ s'.messageTtl = s.messageTtl
  noDL : ∀ d, s.dlTarget d = none → s'.dlTarget d = none

theorem SubKeep.refl (s : Sub) : SubKeep s s := ⟨rfl, fun h => ⟨h, rfl, rfl⟩, fun _ h => h⟩

theorem SubKeep.trans {a b c : Sub} (h₁ : SubKeep a b) (h₂ : SubKeep b c) : SubKeep a c :=
  ⟨h₂.id.trans h₁.id,
   fun h => have ⟨l, o, t⟩ := h₂.live h; have ⟨l', o', t'⟩ := h₁.live l; ⟨l', o.trans o', t.trans t'⟩,
   fun d h => h₂.noDL d (h₁.noDL d h)⟩

theorem SubKeep.ite {s s' : Sub} (c : Bool) (h : SubKeep s s') : SubKeep s (if c = true then s' else s) :=
  iteInduction (fun _ => h) fun _ => .refl s

theorem subsOk_of_map {db db' : Db} (gs : Sub → Sub) (hs : db'.subs = db.subs.map gs)
    (hgs : ∀ s ∈ db.subs, SubKeep s (gs s)) : subsOk db db' = true := by
  refine subsOk_iff.mpr ?_
  rw [hs]
  intro s' hs' hl
  obtain ⟨s, hsm, rfl⟩ := List.mem_map.mp hs'
  obtain ⟨a, b, c⟩ := (hgs s hsm).live hl
  exact Or.inl ⟨s, hsm, a, (hgs s hsm).id.symm, b.symm, c.symm⟩

def UniqLive (db : Db) : Prop :=
  ∀ a ∈ db.subs, ∀ b ∈ db.subs, a.live = true → b.live = true → a.id = b.id → a = b

section
variable {db db' : Db} (gs : Sub → Sub) (hs : db'.subs = db.subs.map gs) (hgs : ∀ s ∈ db.subs, SubKeep s (gs s))
include hs hgs

theorem UniqLive.of_map (h : UniqLive db) : UniqLive db' := by
  unfold UniqLive
  rw [hs]
  intro a ha b hb hla hlb hid
  obtain ⟨a0, ha0, rfl⟩ := List.mem_map.mp ha
  obtain ⟨b0, hb0, rfl⟩ := List.mem_map.mp hb
  rw [h a0 ha0 b0 hb0 ((hgs a0 ha0).live hla).1 ((hgs b0 hb0).live hlb).1
    (by rw [← (hgs a0 ha0).id, ← (hgs b0 hb0).id]; exact hid)]

theorem liveOrd_of_map {i : Id} (h : liveOrd db' i = true) : liveOrd db i = true := by
  obtain ⟨s', hs', hid, hl, ho⟩ := liveOrd_iff.mp h
  rw [hs] at hs'
  obtain ⟨s, hsm, rfl⟩ := List.mem_map.mp hs'
  obtain ⟨hl0, ho0, _⟩ := (hgs s hsm).live hl
  exact liveOrd_iff.mpr ⟨s, hsm, (hgs s hsm).id ▸ hid, hl0, ho0 ▸ ho⟩

end

theorem subsOk_same {db db' : Db} (hs : db'.subs = db.subs) : subsOk db db' = true :=
  subsOk_of_map id (by rw [hs, List.map_id]) (fun s _ => SubKeep.refl s)

theorem RowUpd.of_same {db : Db} {now : Time} {db' : Db} {d d' : Delivery} (hid : d'.id = d.id) (hsub : d'.subId = d.subId)
    (hpub : d'.publishedAt = d.publishedAt) (hexp : d'.expiresAt = d.expiresAt) (hnb : d'.notBefore = d.notBefore)
    (hc : d'.completedAt = d.completedAt) (ha : d'.attempts = d.attempts) (hk : keyOf db' d' = keyOf db d) :
    RowUpd db now db' d d' :=
  ⟨hid, hsub, hpub, hexp, hnb, (hc ▸ ·), Nat.le_of_eq ha.symm, hk, fun h => by
    rw [ha, hc] at h
    rcases h with h | ⟨h1, h2⟩
    · exact absurd h (Nat.lt_irrefl _)
    · cases hd : d.completedAt <;> simp [hd] at h1 h2⟩

section
variable {db : Db} {now : Time} {db' : Db}

theorem rowUpdOk_refl' (d : Delivery) (hk : keyOf db' d = keyOf db d) : rowUpdOk db now db' d d = true :=
  rowUpdOk_iff.mpr ⟨rfl, .of_same rfl rfl rfl rfl rfl rfl rfl hk⟩

variable (hm : db'.msgs = db.msgs)
include hm

theorem rowUpdOk_refl (d : Delivery) : rowUpdOk db now db' d d = true :=
  rowUpdOk_refl' d (keyOf_congr_msgs hm d)

theorem rowUpdOk_attemptAt (d : Delivery) (t : Time) : rowUpdOk db now db' d { d with attemptAt := t } = true :=
  rowUpdOk_iff.mpr ⟨rfl, .of_same rfl rfl rfl rfl rfl rfl rfl (keyOf_congr_msgs hm d)⟩

theorem rowUpdOk_complete (d : Delivery) (t : Time) (hatt : 0 < d.attempts) :
    rowUpdOk db now db' d { d with completedAt := some t } = true :=
  rowUpdOk_iff.mpr ⟨rfl, rfl, rfl, rfl, rfl, rfl, fun _ => rfl, Nat.le_refl _, keyOf_congr_msgs hm d, fun _ _ _ => Or.inl hatt⟩

end

theorem _root_.Mmmbbb.rowUpdOk_lease (db : Db) (now : Time) (db' : Db) (hm : db'.msgs = db.msgs) (d : Delivery) (δ : Int)
    (hjust : liveOrd db d.subId = true → keyOf db d ≠ none → 0 < d.attempts ∨ db.predDone now d = true) :
    rowUpdOk db now db' d (leaseRow now δ d) = true :=
  rowUpdOk_iff.mpr ⟨rfl, rfl, rfl, rfl, rfl, rfl, id, Nat.le_succ _, keyOf_congr_msgs hm d, fun _ => hjust⟩

theorem rowsUpdOk_of_map {db : Db} {now : Time} {db' : Db} (g : Delivery → Delivery) :
    ∀ l : List Delivery, (∀ d ∈ l, rowUpdOk db now db' d (g d) = true) → rowsUpdOk db now db' l (l.map g) = true
  | [], _ => rfl
  | d :: r, h => by
    simp only [List.map_cons, rowsUpdOk, Bool.and_eq_true]
    exact ⟨h d List.mem_cons_self, rowsUpdOk_of_map g r (fun x hx => h x (List.mem_cons_of_mem _ hx))⟩

theorem rowsUpdOk_map (db : Db) (now : Time) (db' : Db) (g : Delivery → Delivery)
    (hg : ∀ d, rowUpdOk db now db' d (g d) = true) : ∀ l : List Delivery, rowsUpdOk db now db' l (l.map g) = true :=
  fun l => rowsUpdOk_of_map g l (fun d _ => hg d)

theorem rowsUpdOk_refl' {db : Db} {now : Time} {db' : Db} (l : List Delivery)
    (h : ∀ d ∈ l, keyOf db' d = keyOf db d) : rowsUpdOk db now db' l l = true := by
  have := rowsUpdOk_of_map (now := now) id l (fun d hd => rowUpdOk_refl' d (h d hd))
  rwa [List.map_id] at this

theorem rowsUpdOk_refl {db : Db} {now : Time} {db' : Db} (hm : db'.msgs = db.msgs) (l : List Delivery) :
    rowsUpdOk db now db' l l = true :=
  rowsUpdOk_refl' l fun d _ => keyOf_congr_msgs hm d

/-- (the two obligations differ only in what they ask of appended and of removed rows) -/
theorem stepOk_of_rows {db : Db} {now : Time} {db' : Db} {now' : Time} (hnow : now ≤ now')
    (hsubs : subsOk db db' = true) (hrows : rowsUpdOk db now db' db.dels db'.dels = true) :
    stepOk true db now db' now' = true ∧ stepOk2 db now db' now' = true :=
  ⟨stepOk_iff.mpr ⟨hnow, hsubs, Or.inl (growOk_iff.mpr ⟨_, [], (List.append_nil _).symm, hrows, rfl⟩)⟩,
   stepOk2_iff.mpr ⟨hnow, hsubs, Or.inl (growOk2_iff.mpr ⟨_, [], (List.append_nil _).symm, hrows, rfl⟩)⟩⟩

theorem stepOk_of_append {db : Db} {now : Time} {db' : Db} {now' : Time} {rows : List Delivery}
    (hnow : now ≤ now') (hd : db'.dels = db.dels ++ rows) (hs : db'.subs = db.subs)
    (hk : ∀ d ∈ db.dels, keyOf db' d = keyOf db d)
    (happ : appendOk true now db' now' db.dels rows = true) :
    stepOk true db now db' now' = true :=
  stepOk_iff.mpr ⟨hnow, subsOk_same hs, Or.inl (growOk_iff.mpr ⟨_, _, hd, rowsUpdOk_refl' _ hk, happ⟩)⟩

theorem stepOk2_of_append {db : Db} {now : Time} {db' : Db} {now' : Time} {rows : List Delivery}
    (hnow : now ≤ now') (hd : db'.dels = db.dels ++ rows) (hs : db'.subs = db.subs)
    (hk : ∀ d ∈ db.dels, keyOf db' d = keyOf db d)
    (happ : appendOk2 db' now' db.dels rows = true) :
    stepOk2 db now db' now' = true :=
  stepOk2_iff.mpr ⟨hnow, subsOk_same hs, Or.inl (growOk2_iff.mpr ⟨_, _, hd, rowsUpdOk_refl' _ hk, happ⟩)⟩

/-- `appendOk` / `appendOk2` as a proposition -/
def AppendAll (P : List Delivery → Delivery → Prop) : List Delivery → List Delivery → Prop
  | _, [] => True
  | T, r :: rest => P T r ∧ AppendAll P (T ++ [r]) rest

theorem appendOk_of_all {now : Time} {db' : Db} {now' : Time} : ∀ {rows T : List Delivery},
    AppendAll (fun T r => (rowNewOk now db' now' T r && stampOk db' T r) = true) T rows →
    appendOk true now db' now' T rows = true
  | [], _, _ => rfl
  | _ :: _, _, h => by
    simp only [appendOk, Bool.not_true, Bool.false_or, Bool.and_eq_true]
    exact ⟨Bool.and_eq_true_iff.mp h.1, appendOk_of_all h.2⟩

theorem appendOk2_of_all {db' : Db} {now' : Time} : ∀ {rows T : List Delivery},
    AppendAll (fun T r => rowNewOk2 db' now' T r = true) T rows → appendOk2 db' now' T rows = true
  | [], _, _ => rfl
  | _ :: _, _, h => by
    simp only [appendOk2, Bool.and_eq_true]
    exact ⟨h.1, appendOk2_of_all h.2⟩

end Mmmbbb.Ord

/-
Print/parse round trip of the filter language at token level: with fuel for the size of the AST, each
parser reads back what its printer wrote and stops before a continuation that cannot extend it
(`parseCond_print`, `parseMore_print_of_noKw`, `parseTerm_print`), and the number of printed tokens
bounds that size (`Cond.size_le`).  `C08_roundtrip_tokens` puts the two together.
-/
import Mmmbbb.Model.FilterSyntax
namespace Mmmbbb.Filter

mutual
  def Cond.size : Cond → Nat
    | .mk t .none => t.size + 1
    | .mk t (.ands ts) => t.size + ts.size + 1
    | .mk t (.ors ts) => t.size + ts.size + 1
  def Terms.size : Terms → Nat
    | .one t => t.size + 1
    | .cons t ts => t.size + ts.size + 1
  def Term.size : Term → Nat
    | .basic _ _ => 1
    | .sub _ c => c.size + 1
end

/-! ### the parser's primitives on a token list whose head is known

With these as rewrite rules `simp` runs a parser over printed tokens without unfolding a
pattern-matching definition.  `lit` compares with `==`; as `decide (_ = _)` a comparison of two
string literals is settled by `simp` from their first difference, not by evaluating `String.decEq`. -/

@[simp] theorem lit_ident (s s' : String) : lit s (.ident s') = decide (s' = s) :=
  Bool.beq_eq_decide_eq s' s

@[simp] theorem lit_sym (s : String) (c : Char) : lit s (.sym c) = decide (c.toString = s) :=
  Bool.beq_eq_decide_eq c.toString s

@[simp] theorem expect_cons (s : String) (t : Tok) (r : List Tok) :
    expect s (t :: r) = if lit s t then some r else none := rfl

@[simp] theorem parseStr_str (s : String) (r : List Tok) : parseStr (.str s :: r) = some (s, r) := rfl

@[simp] theorem parseName_nameTok (n : String) (r : List Tok) : parseName (nameTok n :: r) = some (n, r) := by
  unfold nameTok; split <;> rfl

theorem parseBasic_print (b : Basic) (r : List Tok) : parseBasic (printBasic b ++ r) = some (b, r) := by
  cases b with
  | has n => simp [printBasic, parseBasic, parseHas]
  | value n op v => cases op <;> simp [printBasic, parseBasic, parseHas, parseValue, parseOp]
  | hasPrefix n v => simp [printBasic, parseBasic, parseHas, parseValue, parsePrefix]

theorem parseBasic_paren (r : List Tok) : parseBasic (Tok.sym '(' :: r) = none := by
  simp [parseBasic, parseHas, parseValue, parsePrefix]

theorem parseNeg_basic (b : Basic) (r : List Tok) : parseNeg (printBasic b ++ r) = (false, printBasic b ++ r) := by
  cases b with
  | has n => simp [printBasic, parseNeg]
  | value n op v => cases op <;> simp [printBasic, parseNeg]
  | hasPrefix n v => simp [printBasic, parseNeg]

theorem parseNeg_paren (r : List Tok) : parseNeg (Tok.sym '(' :: r) = (false, Tok.sym '(' :: r) := by
  simp [parseNeg]

theorem parseNeg_print (neg : Bool) {ts : List Tok} (h : parseNeg ts = (false, ts)) :
    parseNeg ((if neg then [Tok.ident "NOT"] else []) ++ ts) = (neg, ts) := by
  cases neg
  · exact h
  · simp [parseNeg]

/-- the continuation must not start with something the enclosing repetition would swallow -/
def noKw (kw : String) : List Tok → Prop
  | [] => True
  | t :: _ => lit kw t = false

def endsCond (r : List Tok) : Prop := noKw "AND" r ∧ noKw "OR" r

theorem endsCond_paren (r : List Tok) : endsCond (Tok.sym ')' :: r) := by
  constructor <;> simp [noKw]

theorem printTerms_append (kw : String) (ts : Terms) (r : List Tok) :
    printTerms kw ts ++ r = .ident kw :: ((printTerms kw ts).tail ++ r) := by
  cases ts <;> simp [printTerms]

/- A size is positive, so the bound `size ≤ fuel` leaves no case `fuel = 0` (the missing alternatives below
   are closed by the pattern-matching compiler: `_ + 1 ≤ 0` has no proof), and `hf` is `_ + 1 ≤ fuel + 1`. -/
mutual
  theorem parseCond_print : ∀ (c : Cond) (fuel : Nat) (r : List Tok), c.size ≤ fuel → endsCond r →
      parseCond fuel (printCond c ++ r) = some (c, r)
    | .mk t .none, fuel + 1, r, hf, he => by
      have ht := parseTerm_print t fuel r (Nat.le_of_succ_le_succ hf)
      simp only [printCond, parseCond, ht, Option.bind_eq_bind, Option.bind_some]
      cases r with
      | nil => rfl
      | cons k r' =>
        have h1 : lit "AND" k = false := he.1
        have h2 : lit "OR" k = false := he.2
        simp [h1, h2]
    | .mk t (.ands ts), fuel + 1, r, hf, he => by
      have hsz : t.size + ts.size ≤ fuel := Nat.le_of_succ_le_succ hf
      have ht := parseTerm_print t fuel (printTerms "AND" ts ++ r) (by omega)
      have hm := parseMore_print_of_noKw "AND" ts fuel r (by omega) he.1
      rw [printTerms_append] at ht
      simp [printCond, printTerms_append, parseCond, ht, hm]
    | .mk t (.ors ts), fuel + 1, r, hf, he => by
      have hsz : t.size + ts.size ≤ fuel := Nat.le_of_succ_le_succ hf
      have ht := parseTerm_print t fuel (printTerms "OR" ts ++ r) (by omega)
      have hm := parseMore_print_of_noKw "OR" ts fuel r (by omega) he.2
      rw [printTerms_append] at ht
      simp [printCond, printTerms_append, parseCond, ht, hm]
  /-- `printTerms kw ts` is `kw t1 kw t2 …`; after the first kw has been consumed, parseMore reads
      the rest, for any keyword, up to a continuation that does not begin with it -/
  theorem parseMore_print_of_noKw (kw : String) : ∀ (ts : Terms) (fuel : Nat) (r : List Tok),
      ts.size ≤ fuel → noKw kw r →
      parseMore kw fuel ((printTerms kw ts).tail ++ r) = some (ts, r)
    | .one t, fuel + 1, r, hf, he => by
      have ht := parseTerm_print t fuel r (Nat.le_of_succ_le_succ hf)
      simp only [printTerms, List.tail_cons, parseMore, ht, Option.bind_eq_bind, Option.bind_some]
      cases r with
      | nil => rfl
      | cons k r' =>
        have h : lit kw k = false := he
        simp [h]
    | .cons t ts, fuel + 1, r, hf, he => by
      have hsz : t.size + ts.size ≤ fuel := Nat.le_of_succ_le_succ hf
      have ht := parseTerm_print t fuel (printTerms kw ts ++ r) (by omega)
      have hm := parseMore_print_of_noKw kw ts fuel r (by omega) he
      rw [printTerms_append] at ht
      simp [printTerms, printTerms_append, parseMore, ht, hm]
  theorem parseTerm_print : ∀ (t : Term) (fuel : Nat) (r : List Tok), t.size ≤ fuel →
      parseTerm fuel (printTerm t ++ r) = some (t, r)
    | .basic neg b, fuel + 1, r, _ => by
      simp only [printTerm, List.append_assoc, parseTerm, parseNeg_print neg (parseNeg_basic b r),
        parseBasic_print]
    | .sub neg c, fuel + 1, r, hf => by
      have hc := parseCond_print c fuel (Tok.sym ')' :: r) (Nat.le_of_succ_le_succ hf) (endsCond_paren r)
      simp only [printTerm, List.append_assoc, List.cons_append, List.nil_append, parseTerm,
        parseNeg_print neg (parseNeg_paren _), parseBasic_paren]
      simp [hc]
end

theorem parseMore_print (kw : String) (hkw : kw = "AND" ∨ kw = "OR") : ∀ (ts : Terms) (fuel : Nat) (r : List Tok),
    ts.size ≤ fuel → endsCond r →
    parseMore kw fuel ((printTerms kw ts).tail ++ r) = some (ts, r) := by
  intro ts fuel r hf he
  refine parseMore_print_of_noKw kw ts fuel r hf ?_
  rcases hkw with rfl | rfl
  · exact he.1
  · exact he.2

/-! ### fuel: the AST size is bounded by the number of printed tokens -/

theorem printBasic_len (b : Basic) : 3 ≤ (printBasic b).length := by
  cases b with
  | has n => simp [printBasic]
  | value n op v => cases op <;> simp [printBasic]
  | hasPrefix n v => simp [printBasic]

mutual
  theorem Cond.size_le : ∀ c : Cond, c.size + 1 ≤ (printCond c).length
    | .mk t .none => by
      have := Term.size_le t
      simp only [Cond.size, printCond]; omega
    | .mk t (.ands ts) => by
      have h1 := Term.size_le t
      have h2 := Terms.size_le "AND" ts
      simp only [Cond.size, printCond, List.length_append]; omega
    | .mk t (.ors ts) => by
      have h1 := Term.size_le t
      have h2 := Terms.size_le "OR" ts
      simp only [Cond.size, printCond, List.length_append]; omega
  theorem Terms.size_le (kw : String) : ∀ ts : Terms, ts.size ≤ (printTerms kw ts).length
    | .one t => by
      have := Term.size_le t
      simp only [Terms.size, printTerms, List.length_cons]; omega
    | .cons t ts => by
      have h1 := Term.size_le t
      have h2 := Terms.size_le kw ts
      simp only [Terms.size, printTerms, List.length_cons, List.length_append]; omega
  theorem Term.size_le : ∀ t : Term, t.size + 2 ≤ (printTerm t).length
    | .basic neg b => by
      have := printBasic_len b
      simp only [Term.size, printTerm, List.length_append]; omega
    | .sub neg c => by
      have := Cond.size_le c
      simp only [Term.size, printTerm, List.length_append, List.length_cons, List.length_nil]; omega
end

end Mmmbbb.Filter

/-
`step` seen as a relation: a step either fails and changes nothing, or commits the result of its
action.  The frame facts of single steps (which operations keep a relation on delivery rows, which
keep the message rows) are each one case analysis over `Commits`.
-/
import Mmmbbb.Model.Step
import Mmmbbb.Proofs.Lease
namespace Mmmbbb

/-- `Commits st op db' now' wakes delivered`: the action of `op` succeeded on `st`, with these
    tables, clock, wake set and (for a pull) response -/
inductive Commits (st : St) : Op → Db → Time → List Id → List (Id × Nat) → Prop
  | advance {d} : Commits st (.advance d) st.db (st.now + d) [] []
  | createTopic {n l i o} : createTopic st.db st.now n l i = .ok o → Commits st (.createTopic n l i) o.db st.now o.wakes []
  | deleteTopic {n o} : deleteTopic st.db st.now n = .ok o → Commits st (.deleteTopic n) o.db st.now o.wakes []
  | createSub {p i o} : createSub st.db st.now p i = .ok o → Commits st (.createSub p i) o.db st.now o.wakes []
  | deleteSub {n o} : deleteSub st.db st.now n = .ok o → Commits st (.deleteSub n) o.db st.now o.wakes []
  | publish {t tick ms o} : publish st.db st.now t tick ms = .ok o →
      Commits st (.publish t tick ms) o.db (st.now + tick * ms.length) o.wakes []
  | pull {s mx mb strict wait obs o now'} : pull st.db st.now s mx mb strict wait obs = .ok (o, now') →
      Commits st (.pull s mx mb strict wait obs) o.db now' o.wakes o.val.delivered
  | ack {ids o} : ack st.db st.now ids = .ok o → Commits st (.ack ids) o.db st.now o.wakes []
  | nack {ids ds fw o} : nack st.db st.now ids ds fw = .ok o → Commits st (.nack ids ds fw) o.db st.now o.wakes []
  | delay {ids d o} : delay st.db st.now ids d = .ok o → Commits st (.delay ids d) o.db st.now o.wakes []
  | dlSweep {mx v fw o} : dlSweep st.db st.now mx v fw = .ok o → Commits st (.dlSweep mx v fw) o.db st.now o.wakes []
  | seekTime {s t o} : seekTime st.db st.now s t = .ok o → Commits st (.seekTime s t) o.db st.now o.wakes []
  | seekSnap {s n o} : seekSnap st.db st.now s n = .ok o → Commits st (.seekSnap s n) o.db st.now o.wakes []
  | snapshot {n s l i o} : createSnapshot st.db st.now n s l i = .ok o → Commits st (.snapshot n s l i) o.db st.now o.wakes []
  | deleteSnap {n o} : deleteSnapshot st.db n = .ok o → Commits st (.deleteSnap n) o.db st.now o.wakes []
  | setDelay {n d o} : setDelay st.db n d = .ok o → Commits st (.setDelay n d) o.db st.now o.wakes []
  | expireSubs {mx v o} : expireSubs st.db st.now mx v = .ok o → Commits st (.expireSubs mx v) o.db st.now o.wakes []
  | pruneCompletedDeliveries {a mx v o} : pruneCompletedDeliveries st.db st.now a mx v = .ok o →
      Commits st (.pruneCompletedDeliveries a mx v) o.db st.now o.wakes []
  | pruneExpiredDeliveries {mx v o} : pruneExpiredDeliveries st.db st.now mx v = .ok o →
      Commits st (.pruneExpiredDeliveries mx v) o.db st.now o.wakes []
  | pruneCompletedMessages {a mx v o} : pruneCompletedMessages st.db st.now a mx v = .ok o →
      Commits st (.pruneCompletedMessages a mx v) o.db st.now o.wakes []
  | pruneDeletedSubDeliveries {a mx v o} : pruneDeletedSubDeliveries st.db st.now a mx v = .ok o →
      Commits st (.pruneDeletedSubDeliveries a mx v) o.db st.now o.wakes []
  | pruneDeletedSubs {a mx v o} : pruneDeletedSubs st.db st.now a mx v = .ok o →
      Commits st (.pruneDeletedSubs a mx v) o.db st.now o.wakes []
  | pruneDeletedTopics {a mx v o} : pruneDeletedTopics st.db st.now a mx v = .ok o →
      Commits st (.pruneDeletedTopics a mx v) o.db st.now o.wakes []

theorem step_spec (st : St) (op : Op) :
    (∃ e : Err, step st op = (st, { resp := "E:" ++ e.cls, ok := false })) ∨
    ∃ db' now' wk dl resp, Commits st op db' now' wk dl ∧
      step st op = ({ db := db', now := now' }, { resp := resp, wakes := wk, delivered := dl }) := by
  -- the twenty operations that are one `finish`
  have fin : ∀ {α} (r : Except Err (TxOut α)) (render : α → String),
      (∀ o, r = .ok o → Commits st op o.db st.now o.wakes []) →
      (∃ e : Err, finish st r render = (st, { resp := "E:" ++ e.cls, ok := false })) ∨
      ∃ db' now' wk dl resp, Commits st op db' now' wk dl ∧
        finish st r render = ({ db := db', now := now' }, { resp := resp, wakes := wk, delivered := dl }) := by
    intro α r render hc
    cases r with
    | error e => exact Or.inl ⟨e, rfl⟩
    | ok o => exact Or.inr ⟨_, _, _, _, _, hc o rfl, rfl⟩
  cases op <;> dsimp only [step]
  case advance => exact Or.inr ⟨_, _, _, _, _, .advance, rfl⟩
  case publish =>
    split
    · rename_i o h; exact Or.inr ⟨_, _, _, _, _, .publish h, rfl⟩
    · exact Or.inl ⟨_, rfl⟩
  case pull =>
    split
    · rename_i o now' h; exact Or.inr ⟨_, _, _, _, _, .pull h, rfl⟩
    · exact Or.inl ⟨_, rfl⟩
  all_goals exact fin _ _ fun _ h => by constructor; exact h

theorem step_err {st : St} {op : Op} (h : (step st op).2.ok = false) :
    (step st op).1 = st ∧ (step st op).2.wakes = [] ∧ (step st op).2.delivered = [] := by
  obtain ⟨_, he⟩ | ⟨_, _, _, _, _, _, he⟩ := step_spec st op <;> rw [he] at h ⊢
  · exact ⟨rfl, rfl, rfl⟩
  · cases h

theorem step_delivered_is_pull {st : St} {op : Op} {x : Id × Nat} (hx : x ∈ (step st op).2.delivered) :
    ∃ s mx mb strict wait obs, op = .pull s mx mb strict wait obs := by
  obtain ⟨_, he⟩ | ⟨_, _, _, _, _, hc, he⟩ := step_spec st op <;> rw [he] at hx
  · cases hx
  · cases hc with
    | pull => exact ⟨_, _, _, _, _, _, rfl⟩
    | _ => cases hx

/-- `pull_post_delivered`, read off the step -/
theorem step_pull_delivered {st : St} {s : String} {mx mb : Nat} {strict : Bool} {wait : Int} {obs : PullObs}
    {i : Id} {n : Nat} (hmem : (i, n) ∈ (step st (.pull s mx mb strict wait obs)).2.delivered) :
    ∃ sub c δ, st.db.liveSubByName s = some sub ∧ st.db.delById i = some c ∧
      (refreshExpiry st.db sub st.now).eligible sub st.now c = true ∧ n = c.attempts + 1 ∧
      Backoff.delayOk (Backoff.nominal sub.minBackoff sub.maxBackoff n) δ = true ∧
      (step st (.pull s mx mb strict wait obs)).1.db.delById i = some (leaseRow st.now δ c) := by
  dsimp only [step] at hmem ⊢
  cases h : pull st.db st.now s mx mb strict wait obs with
  | error e => rw [h] at hmem; cases hmem
  | ok r =>
    rw [h] at hmem
    obtain ⟨sub, hs, hall⟩ := pull_post_delivered h
    obtain ⟨c, δ, hc⟩ := hall (i, n) hmem
    exact ⟨sub, c, δ, hs, hc⟩

section
variable {R : Delivery → Delivery → Prop}

/-- **frame, for any relation on delivery rows**: every operation except the seeks and the delivery
    prune jobs keeps `R` row by row (by primary key), provided `R` tolerates a completion (`RowRel`),
    the lease of a row that is due and not completed, and a new deadline — for the operations that
    keep leases only a later one. -/
theorem step_rel (hR : RowRel R) (st : St) (op : Op) (hop : op.delsMonotone = true)
    (hlease : ∀ (d : Delivery) (δ : Int), d.completedAt = none → d.attemptAt ≤ st.now → R d (leaseRow st.now δ d))
    (hatt : ∀ (d : Delivery) (t : Time), (op.keepsLease = true → d.attemptAt ≤ t) → R d { d with attemptAt := t }) :
    DelsRel R st.db.dels (step st op).1.db.dels := by
  have hrefl := DelsRel.refl hR st.db.dels
  obtain ⟨_, he⟩ | ⟨_, _, _, _, _, hc, he⟩ := step_spec st op <;> rw [he]
  · exact hrefl
  · cases hc with
    | advance => exact hrefl
    | createTopic h => obtain ⟨_, _, rfl⟩ := createTopic_ok h; exact hrefl
    | deleteTopic h => obtain ⟨_, _, _, rfl⟩ := deleteTopic_ok h; exact hrefl
    | createSub h =>
      obtain ⟨_, _, _, _, _, _, hdb, _⟩ := createSub_ok h
      rw [hdb]
      exact hrefl
    | deleteSub h => obtain ⟨_, _, _, rfl⟩ := deleteSub_ok h; exact hrefl
    | publish h => exact (publish_rel hR h).1
    | pull h => exact (pull_rel hR hlease h).1
    | ack h => exact (ack_rel hR h).1
    | nack h => exact (nack_rel hR (fun d t => hatt d t (fun hk => nomatch hk)) h).1
    | delay h =>
      -- a positive delay rewrites only rows that are due before the new deadline
      exact (delay_rel hR (fun d hd => hatt d _ fun hk =>
        hd.elim (fun hle => absurd (of_decide_eq_true hk) (Int.not_lt.mpr hle)) Int.le_of_lt) h).1
    | dlSweep h => exact (dlSweep_rel hR h).1
    | seekTime => cases hop
    | seekSnap => cases hop
    | snapshot h => obtain ⟨_, _, _, _, _, _, _, _, _, rfl⟩ := createSnapshot_ok h; exact hrefl
    | deleteSnap h => obtain ⟨_, rfl⟩ := deleteSnapshot_ok h; exact hrefl
    | setDelay h => obtain ⟨_, rfl⟩ := setDelay_ok h; exact hrefl
    | expireSubs h => obtain ⟨_, rfl⟩ := expireSubs_ok h; exact hrefl
    | pruneCompletedDeliveries => cases hop
    | pruneExpiredDeliveries => cases hop
    | pruneCompletedMessages h => obtain ⟨_, rfl⟩ := pruneCompletedMessages_ok h; exact hrefl
    | pruneDeletedSubDeliveries => cases hop
    | pruneDeletedSubs h => obtain ⟨_, rfl⟩ := pruneDeletedSubs_ok h; exact hrefl
    | pruneDeletedTopics h => obtain ⟨_, _, rfl⟩ := pruneDeletedTopics_ok h; exact hrefl

end

theorem step_mono (st : St) (op : Op) (hop : op.delsMonotone = true) :
    DelsMono st.db.dels (step st op).1.db.dels :=
  step_rel rowRel_mono st op hop (fun d δ _ _ => rowMono_lease _ δ d) (fun d t _ => rowMono_attemptAt d t)

theorem Op.delsMonotone_of_keepsLease {op : Op} (h : op.keepsLease = true) : op.delsMonotone = true := by
  cases op <;> first | rfl | cases h

theorem step_held (st : St) (op : Op) (T : Time) (hT : st.now < T) (hop : op.keepsLease = true) :
    DelsRel (HeldRel T) st.db.dels (step st op).1.db.dels := by
  refine step_rel (rowRel_held T) st op (Op.delsMonotone_of_keepsLease hop) ?_ ?_
  · exact fun d δ hopen hdue => ⟨rfl, fun hheld => absurd hheld (not_held_of_due hT hopen hdue)⟩
  · intro d t hle
    exact ⟨rfl, fun hheld => hheld.imp (fun h1 => Int.le_trans h1 (hle hop)) id⟩

end Mmmbbb

/-
`SameUnwoken w l l'`: the delivery rows of the subscriptions outside the wake set `w` are the same in
`l` and `l'` — the store-side counterpart of the hypothesis `covers` of the protocol invariant
(Proofs/Notify.lean) — and what an `UPDATE … WHERE` keeps of it.  The writers the no-lost-wake-up
property names are shown to satisfy it in Properties/C10.lean (`C10_wakes_cover_*`).
-/
import Mmmbbb.Proofs.Shape
namespace Mmmbbb

def SameUnwoken (w : List Id) (l l' : List Delivery) : Prop :=
  (∀ d ∈ l, d.subId ∉ w → d ∈ l') ∧ (∀ d' ∈ l', d'.subId ∉ w → d' ∈ l)

theorem SameUnwoken.refl (w : List Id) (l : List Delivery) : SameUnwoken w l l :=
  ⟨fun _ h _ => h, fun _ h _ => h⟩

theorem SameUnwoken.trans {w : List Id} {a b c : List Delivery} (h1 : SameUnwoken w a b) (h2 : SameUnwoken w b c) :
    SameUnwoken w a c :=
  ⟨fun d hd hw => h2.1 d (h1.1 d hd hw) hw, fun d hd hw => h1.2 d (h2.2 d hd hw) hw⟩

theorem SameUnwoken.mono {w w' : List Id} {a b : List Delivery} (h : SameUnwoken w a b) (hs : ∀ x ∈ w, x ∈ w') :
    SameUnwoken w' a b :=
  ⟨fun d hd hw => h.1 d hd (fun hx => hw (hs _ hx)), fun d hd hw => h.2 d hd (fun hx => hw (hs _ hx))⟩

/-- An `UPDATE` that matches only rows of woken subscriptions, and (`hf`; by default: by computation)
    moves no row to another subscription, leaves the rows of the others as they are. -/
theorem updateWhere_unwoken {w : List Id} {p : Delivery → Bool} {f : Delivery → Delivery} {l : List Delivery}
    (hp : ∀ d ∈ l, p d = true → d.subId ∈ w) (hf : ∀ d, (f d).subId = d.subId := by intro _; rfl) :
    SameUnwoken w l (updateWhere p f l) := by
  constructor
  · intro d hd hw
    exact mem_updateWhere_of_false hd (Bool.eq_false_iff.mpr fun hpd => hw (hp d hd hpd))
  · intro d' hd' hw
    unfold updateWhere at hd'
    obtain ⟨d, hd, rfl⟩ := List.mem_map.mp hd'
    by_cases hpd : p d = true
    · simp only [hpd, if_true] at hw ⊢
      rw [hf] at hw
      exact absurd (hp d hd hpd) hw
    · simp only [hpd] at hw ⊢
      exact hd

theorem updateWhere_local {sid : Id} {p : Delivery → Bool} {f : Delivery → Delivery} {l : List Delivery}
    (hp : ∀ d, p d = true → d.subId = sid) (hf : ∀ d, (f d).subId = d.subId := by intro _; rfl) :
    SameUnwoken [sid] l (updateWhere p f l) :=
  updateWhere_unwoken (fun d _ hpd => by rw [hp d hpd]; exact List.mem_singleton.mpr rfl) hf

end Mmmbbb

/-
Frame lemmas: how each action may change the `deliveries` table.

`RowMono d d'` is what every operation other than a seek or a delivery prune job preserves of a delivery row (identity,
message, subscription, publish instant, retention end) and what it may only move forward
(completion, attempt counter).  `DelsMono l l'` lifts it to tables, row by row *by id* — the way
the SQL code addresses rows — so no uniqueness invariant is needed to state or compose it.
-/
import Mmmbbb.Proofs.Shape
namespace Mmmbbb

structure RowMono (d d' : Delivery) : Prop where
  id : d'.id = d.id
  msg : d'.msgId = d.msgId
  sub : d'.subId = d.subId
  pub : d'.publishedAt = d.publishedAt
  expires : d'.expiresAt = d.expiresAt
  completed : d.completedAt.isSome = true → d'.completedAt.isSome = true
  attempts : d.attempts ≤ d'.attempts

theorem RowMono.refl (d : Delivery) : RowMono d d :=
  ⟨rfl, rfl, rfl, rfl, rfl, fun h => h, Nat.le_refl _⟩

theorem RowMono.trans {a b c : Delivery} (h₁ : RowMono a b) (h₂ : RowMono b c) : RowMono a c :=
  ⟨h₂.id.trans h₁.id, h₂.msg.trans h₁.msg, h₂.sub.trans h₁.sub, h₂.pub.trans h₁.pub,
   h₂.expires.trans h₁.expires, fun h => h₂.completed (h₁.completed h), Nat.le_trans h₁.attempts h₂.attempts⟩

def findDel (l : List Delivery) (i : Id) : Option Delivery := l.find? (·.id == i)

theorem Db.delById_eq (db : Db) (i : Id) : db.delById i = findDel db.dels i := rfl

theorem findDel_some {l : List Delivery} {i : Id} {d : Delivery} (h : findDel l i = some d) : d ∈ l ∧ d.id = i :=
  find?_key (key := Delivery.id) h

theorem findDel_append_some {l rows : List Delivery} {i : Id} {d : Delivery} (h : findDel l i = some d) :
    findDel (l ++ rows) i = some d := find?_append_of_some h

theorem findDel_updateWhere (l : List Delivery) (p : Delivery → Bool) (f : Delivery → Delivery) (i : Id)
    (hid : ∀ x, (f x).id = x.id) :
    findDel (updateWhere p f l) i = (findDel l i).map fun x => if p x then f x else x :=
  find?_updateWhere (key := Delivery.id) hid i

/-- (`hid`, that the assignment keeps the key, is by default proved by computation) -/
theorem delById_updateWhere {db : Db} {p : Delivery → Bool} {f : Delivery → Delivery} {i : Id} {d : Delivery}
    (hd : db.delById i = some d) (hid : ∀ x, (f x).id = x.id := by intro _; rfl) :
    ({ db with dels := updateWhere p f db.dels } : Db).delById i = some (if p d then f d else d) :=
  (findDel_updateWhere db.dels p f i hid).trans (by rw [← Db.delById_eq, hd]; rfl)

theorem findDel_updateWhere_ne (l : List Delivery) (p : Delivery → Bool) (f : Delivery → Delivery) (i : Id)
    (hid : ∀ x, (f x).id = x.id) (hp : ∀ x, x.id = i → p x = false) :
    findDel (updateWhere p f l) i = findDel l i := by
  rw [findDel_updateWhere l p f i hid]
  cases h : findDel l i with
  | none => rfl
  | some x => simp [hp x (findDel_some h).2]

/-- a relation between the old and the new version of a row that every row update used by
    enqueueing and dead-lettering respects -/
structure RowRel (R : Delivery → Delivery → Prop) : Prop where
  refl : ∀ d, R d d
  trans : ∀ {a b c}, R a b → R b c → R a c
  id : ∀ {a b}, R a b → b.id = a.id
  complete : ∀ d t, R d { d with completedAt := some t }

def DelsRel (R : Delivery → Delivery → Prop) (l l' : List Delivery) : Prop :=
  ∀ i d, findDel l i = some d → ∃ d', findDel l' i = some d' ∧ R d d'

abbrev DelsMono := DelsRel RowMono

theorem rowRel_mono : RowRel RowMono :=
  ⟨RowMono.refl, RowMono.trans, fun h => h.id,
   fun _ _ => ⟨rfl, rfl, rfl, rfl, rfl, fun _ => rfl, Nat.le_refl _⟩⟩

section
variable {R : Delivery → Delivery → Prop}

theorem DelsRel.refl (hR : RowRel R) (l : List Delivery) : DelsRel R l l :=
  fun _ d h => ⟨d, h, hR.refl d⟩

theorem DelsRel.trans (hR : RowRel R) {a b c : List Delivery} (h₁ : DelsRel R a b) (h₂ : DelsRel R b c) :
    DelsRel R a c := by
  intro i d hd
  obtain ⟨d', hd', r₁⟩ := h₁ i d hd
  obtain ⟨d'', hd'', r₂⟩ := h₂ i d' hd'
  exact ⟨d'', hd'', hR.trans r₁ r₂⟩

theorem findDel_map (l : List Delivery) (g : Delivery → Delivery) (i : Id) (h : ∀ d, (g d).id = d.id) :
    findDel (l.map g) i = (findDel l i).map g := find?_map_key (key := Delivery.id) g h l i

theorem DelsRel.map (hR : RowRel R) (l : List Delivery) (g : Delivery → Delivery) (h : ∀ d, R d (g d)) :
    DelsRel R l (l.map g) := by
  intro i d hd
  refine ⟨g d, ?_, h d⟩
  rw [findDel_map l g i (fun d => hR.id (h d)), hd]; rfl

theorem DelsRel.updateWhere (hR : RowRel R) (l : List Delivery) (p : Delivery → Bool) (f : Delivery → Delivery)
    (h : ∀ d, p d = true → R d (f d)) : DelsRel R l (updateWhere p f l) := by
  unfold Mmmbbb.updateWhere
  refine DelsRel.map hR l _ fun d => ?_
  split
  · exact h d ‹_›
  · exact hR.refl d

theorem DelsRel.append (hR : RowRel R) {l rows : List Delivery} : DelsRel R l (l ++ rows) :=
  fun _ d hd => ⟨d, findDel_append_some hd, hR.refl d⟩

theorem deliverAll_mono (hR : RowRel R) {db : Db} {subs : List Sub} {m : Msg} {now : Time} {fwds : List Fwd}
    {db' : Db} {w : List Id} (h : deliverAll db subs m now fwds = .ok (db', w)) :
    DelsRel R db.dels db'.dels := by
  obtain ⟨rows, _, rfl, _⟩ := deliverAll_shape h
  exact DelsRel.append hR

end

def SameOther (db db' : Db) : Prop :=
  db'.topics = db.topics ∧ db'.subs = db.subs ∧ db'.msgs = db.msgs ∧ db'.snaps = db.snaps

theorem SameOther.refl (db : Db) : SameOther db db := ⟨rfl, rfl, rfl, rfl⟩
theorem SameOther.trans {a b c : Db} (h₁ : SameOther a b) (h₂ : SameOther b c) : SameOther a c :=
  ⟨h₂.1.trans h₁.1, h₂.2.1.trans h₁.2.1, h₂.2.2.1.trans h₁.2.2.1, h₂.2.2.2.trans h₁.2.2.2⟩

theorem deadLetter_other {db : Db} {d : Delivery} {dlt : Id} {now : Time} {fwds : List Fwd}
    {db' : Db} {w : List Id} (h : deadLetter db d dlt now fwds = .ok (db', w)) : SameOther db db' := by
  obtain ⟨rows, rfl⟩ := deadLetter_shape h
  exact ⟨rfl, rfl, rfl, rfl⟩

/-! ### the actions on deliveries

Each keeps, row by row, every relation `R` that tolerates a completion (`RowRel`) and the deadline
updates the action makes, and leaves the other four tables alone. -/

section
variable {R : Delivery → Delivery → Prop}

theorem deadLetter_rel (hR : RowRel R) {db0 db : Db} {d : Delivery} {dlt : Id} {now : Time} {fwds : List Fwd}
    {db' : Db} {w : List Id} (h : deadLetter db d dlt now fwds = .ok (db', w))
    (hp : DelsRel R db0.dels db.dels ∧ SameOther db0 db) : DelsRel R db0.dels db'.dels ∧ SameOther db0 db' := by
  refine ⟨?_, hp.2.trans (deadLetter_other h)⟩
  obtain ⟨rows, rfl⟩ := deadLetter_shape h
  exact (hp.1.trans hR (.append hR)).trans hR (.updateWhere hR _ _ _ fun x _ => hR.complete x now)

theorem pullLoop_rel (hR : RowRel R) {s : Sub} {now : Time} {maxBytes : Nat} {strict : Bool} {obs : PullObs}
    {cands : List Delivery} {i : Nat} {acc acc' : PullAcc}
    (h : pullLoop s now maxBytes strict obs i cands acc = .ok acc') :
    DelsRel R acc.db.dels acc'.db.dels ∧ SameOther acc.db acc'.db :=
  pullLoop_ind (fun _ a => DelsRel R acc.db.dels a.db.dels ∧ SameOther acc.db a.db)
    (fun _ _ _ _ hp => hp) (fun _ _ _ _ hdl hp => deadLetter_rel hR hdl hp) (fun _ _ _ _ _ _ hp => hp)
    h ⟨DelsRel.refl hR _, SameOther.refl _⟩

theorem ack_rel (hR : RowRel R) {db : Db} {now : Time} {ids : List Id} {o : TxOut Nat} (h : ack db now ids = .ok o) :
    DelsRel R db.dels o.db.dels ∧ SameOther db o.db := by
  unfold ack at h
  injection h with h; subst h
  exact ⟨DelsRel.updateWhere hR _ _ _ (fun x _ => hR.complete x now), SameOther.refl _⟩

theorem delay_rel (hR : RowRel R) {db : Db} {now : Time} {ids : List Id} {Δ : Int} {o : TxOut Nat}
    (hupd : ∀ d : Delivery, (Δ ≤ 0 ∨ d.attemptAt < now + Δ) → R d { d with attemptAt := now + Δ })
    (h : delay db now ids Δ = .ok o) : DelsRel R db.dels o.db.dels ∧ SameOther db o.db := by
  obtain ⟨p, hp, rfl⟩ := delay_ok h
  exact ⟨DelsRel.updateWhere hR _ _ _ (fun x hx => hupd x ((hp x).mp hx).2.2), SameOther.refl _⟩

theorem nack_rel (hR : RowRel R) (hatt : ∀ (d : Delivery) (t : Time), R d { d with attemptAt := t })
    {db : Db} {now : Time} {ids : List Id} {delays : List (Id × Int)}
    {fwds : List (Id × List Fwd)} {o : TxOut (Nat × Nat)} (h : nack db now ids delays fwds = .ok o) :
    DelsRel R db.dels o.db.dels ∧ SameOther db o.db := by
  obtain ⟨rows, acc, _, hl, rfl⟩ := nack_ok h
  refine nackLoop_ind (fun _ a => DelsRel R db.dels a.db.dels ∧ SameOther db a.db)
    (fun _ _ _ _ hdl hp => deadLetter_rel hR hdl hp)
    (fun _ _ _ _ _ _ hp => ⟨DelsRel.trans hR hp.1 ?_, SameOther.trans hp.2 ⟨rfl, rfl, rfl, rfl⟩⟩)
    hl ⟨DelsRel.refl hR _, SameOther.refl _⟩
  unfold setAttemptAt
  exact DelsRel.updateWhere hR _ _ _ (fun x _ => hatt x _)

theorem dlSweep_rel (hR : RowRel R) {db : Db} {now : Time} {max : Nat} {victims : List Id}
    {fwds : List (Id × List Fwd)} {o : TxOut Nat} (h : dlSweep db now max victims fwds = .ok o) :
    DelsRel R db.dels o.db.dels ∧ SameOther db o.db := by
  obtain ⟨_, rows, db', wakes, _, hl, rfl⟩ := dlSweep_ok h
  exact sweepLoop_ind (fun _ a => DelsRel R db.dels a.dels ∧ SameOther db a)
    (fun _ _ _ hdl hp => deadLetter_rel hR hdl hp) hl ⟨DelsRel.refl hR _, SameOther.refl _⟩

theorem publish_rel (hR : RowRel R) {db : Db} {now : Time} {topic : String} {tick : Int} {msgs : List PubMsg}
    {o : TxOut (List Id)} (h : publish db now topic tick msgs = .ok o) :
    DelsRel R db.dels o.db.dels ∧ o.db.topics = db.topics ∧ o.db.subs = db.subs ∧ o.db.snaps = db.snaps ∧
      ∀ m ∈ db.msgs, m ∈ o.db.msgs := by
  obtain ⟨t, db', wakes, _, hl, rfl⟩ := publish_ok h
  exact publishLoop_ind
    (fun a _ => DelsRel R db.dels a.dels ∧ a.topics = db.topics ∧ a.subs = db.subs ∧ a.snaps = db.snaps ∧
      ∀ m ∈ db.msgs, m ∈ a.msgs)
    (fun h1 hp => by
      obtain ⟨_, m, _, hd⟩ := publishOne_ok h1
      obtain ⟨rows, _, rfl, _⟩ := deliverAll_shape hd
      exact ⟨DelsRel.trans hR hp.1 (DelsRel.append hR), hp.2.1, hp.2.2.1, hp.2.2.2.1,
        fun x hx => List.mem_append_left _ (hp.2.2.2.2 x hx)⟩)
    hl ⟨DelsRel.refl hR _, rfl, rfl, rfl, fun _ hx => hx⟩

end

theorem rowMono_lease (now : Time) (δ : Int) (d : Delivery) : RowMono d (leaseRow now δ d) :=
  ⟨rfl, rfl, rfl, rfl, rfl, fun h => h, Nat.le_succ _⟩

theorem rowMono_attemptAt (d : Delivery) (t : Time) : RowMono d { d with attemptAt := t } :=
  ⟨rfl, rfl, rfl, rfl, rfl, fun h => h, Nat.le_refl _⟩

end Mmmbbb

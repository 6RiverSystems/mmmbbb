/-
What a successful call of each action did: one inversion lemma per action (`f … = .ok o` gives the
guards that were passed and `o` itself), after what the checks on observations (`lookupAll`,
`limitOk`, `candsOk`) give when they pass.  Whatever else is proved about an action starts here and
does not open the action again; the loops inside the actions have their induction principles in
`Proofs/Loops.lean`.  The proofs walk through the action in the order of its statements: a guard
`if b then error else …` is passed by `ok_of_if_error` / `ok_of_if_not_error` (Proofs/Kit.lean), a
`match` on a lookup or on the result of an inner call by `split`.  (`createSub_ok` stands next to
`createSub`; `ack` has no guard: `unfold ack` is its shape.)
-/
import Mmmbbb.Proofs.Loops
namespace Mmmbbb

theorem lookupAll_delById {db : Db} : ∀ {ids : List Id} {rows : List Delivery},
    lookupAll db.delById ids = some rows → rows.map (·.id) = ids ∧ ∀ c ∈ rows, db.delById c.id = some c
  | [], rows, h => by
    cases h
    exact ⟨rfl, fun _ hc => nomatch hc⟩
  | i :: t, rows, h => by
    unfold lookupAll at h
    split at h
    · rename_i a rest ha hrest
      cases h
      obtain ⟨h1, h2⟩ := lookupAll_delById hrest
      obtain ⟨-, rfl⟩ := delById_mem ha
      exact ⟨congrArg _ h1, List.forall_mem_cons.mpr ⟨ha, h2⟩⟩
    · cases h

theorem nodupIds_iff (l : List Id) : nodupIds l = true ↔ l.Nodup := by
  induction l with
  | nil => simp [nodupIds]
  | cons x r ih => simp [nodupIds, ih]

section
variable {α : Type _} {rows : List α} {lookup : Id → Option α} {p : α → Bool} {victims : List Id} {max : Nat}

theorem limitOk_spec (h : limitOk rows lookup p victims max = true) :
    victims.Nodup ∧ victims.length = min max (rows.filter p).length ∧
      ∀ v ∈ victims, ∃ r, lookup v = some r ∧ p r = true := by
  unfold limitOk at h
  simp only [Bool.and_eq_true, beq_iff_eq] at h
  refine ⟨(nodupIds_iff _).mp h.1.1, h.1.2, fun v hv => ?_⟩
  have := List.all_eq_true.mp h.2 v hv
  split at this
  · rename_i r hr; exact ⟨r, hr, this⟩
  · cases this

theorem limitOk_victims (h : limitOk rows lookup p victims max = true) :
    ∀ v ∈ victims, ∃ r, lookup v = some r ∧ p r = true := (limitOk_spec h).2.2

end

/-- Two idioms of the candidate predicates of the prune jobs, decoded ("deleted or completed at least
    so long ago", "no row refers to it").  The first is stated with a `match` of its own and so cannot
    rewrite a candidate predicate: apply it to the hypothesis. -/
theorem exists_le_of_match {o : Option Time} {b : Time}
    (h : (match o with | some t => decide (t ≤ b) | none => false) = true) : ∃ t, o = some t ∧ t ≤ b := by
  cases o with
  | none => cases h
  | some t => exact ⟨t, rfl, of_decide_eq_true h⟩

theorem forall_ne_of_not_any {α β : Type _} [BEq β] [LawfulBEq β] {l : List α} {key : α → β} {i : β}
    (h : (!l.any fun x => key x == i) = true) : ∀ x ∈ l, key x ≠ i :=
  fun x hx e => List.any_eq_false.mp ((Bool.not_eq_true' _).mp h) x hx (beq_iff_eq.mpr e)

/-- (`candsOk` also checks the order of the candidates and that no eligible row is due earlier; this
    lemma does not report those two checks) -/
theorem candsOk_spec {isElig : Delivery → Bool} {elig cands : List Delivery} {max : Nat}
    (h : candsOk isElig elig cands max = true) :
    cands.length = min max elig.length ∧ (cands.map (·.id)).Nodup ∧ ∀ c ∈ cands, isElig c = true := by
  unfold candsOk at h
  simp only [Bool.and_eq_true, beq_iff_eq] at h
  exact ⟨h.1.1.1.1, (nodupIds_iff _).mp h.1.1.1.2, fun c hc => List.all_eq_true.mp h.1.1.2 c hc⟩

theorem createTopic_ok {db : Db} {now : Time} {name : String} {labels : StrMap} {newId : Id} {o : TxOut Id}
    (h : createTopic db now name labels newId = .ok o) :
    (db.liveTopicByName name).isSome = false ∧ db.allIds.contains newId = false ∧
      o = { db := { db with topics := db.topics ++
              [{ id := newId, name := name, createdAt := now, deletedAt := none, labels := labels }] },
            wakes := [], val := newId } := by
  obtain ⟨hex, h⟩ := ok_of_if_error h
  obtain ⟨hfresh, h⟩ := ok_of_if_error h
  exact ⟨hex, hfresh, (Except.ok.inj h).symm⟩

theorem deleteTopic_ok {db : Db} {now : Time} {name : String} {o : TxOut Nat}
    (h : deleteTopic db now name = .ok o) :
    ∃ ids, ids = (db.topics.filter fun t => t.name == name && t.live).map (·.id) ∧ ids ≠ [] ∧
      o = { db := { db with
              topics := updateWhere (fun t => t.name == name && t.live) (fun t => { t with deletedAt := some now }) db.topics,
              snaps := db.snaps.filter fun sn => !ids.contains sn.topicId },
            wakes := [], val := ids.length } := by
  obtain ⟨hne, h⟩ := ok_of_if_error h
  exact ⟨_, rfl, List.isEmpty_eq_false_iff.mp hne, (Except.ok.inj h).symm⟩

theorem deleteSub_ok {db : Db} {now : Time} {name : String} {o : TxOut Nat}
    (h : deleteSub db now name = .ok o) :
    ∃ ids, ids = (db.subs.filter fun s => s.name == name && s.live).map (·.id) ∧ ids ≠ [] ∧
      o = { db := { db with
              subs := updateWhere (fun s => s.name == name && s.live) (fun s => { s with deletedAt := some now }) db.subs },
            wakes := ids, val := ids.length } := by
  obtain ⟨hne, h⟩ := ok_of_if_error h
  exact ⟨_, rfl, List.isEmpty_eq_false_iff.mp hne, (Except.ok.inj h).symm⟩

theorem setDelay_ok {db : Db} {name : String} {d : Int} {o : TxOut Unit} (h : setDelay db name d = .ok o) :
    db.subs.any (fun s => s.name == name && s.live) = true ∧
      o = { db := { db with
              subs := updateWhere (fun s => s.name == name && s.live) (fun s => { s with deliveryDelay := d }) db.subs },
            wakes := [], val := () } := by
  obtain ⟨hany, h⟩ := ok_of_if_not_error h
  exact ⟨hany, (Except.ok.inj h).symm⟩

theorem createSnapshot_ok {db : Db} {now : Time} {name subName : String} {labels : StrMap} {newId : Id} {o : TxOut Id}
    (h : createSnapshot db now name subName labels newId = .ok o) :
    ∃ s sn, (db.snapByName name).isSome = false ∧ db.liveSubByName subName = some s ∧
      db.allIds.contains newId = false ∧
      sn.id = newId ∧ sn.name = name ∧ sn.topicId = s.topicId ∧
      (match minPub (db.dels.filter fun d => d.subId == s.id && d.isOpen now) with
       | none => sn.ackedBefore = now ∧ sn.ackedIds = []
       | some t0 => sn.ackedBefore = t0 ∧
           sn.ackedIds = (db.dels.filter fun d =>
             d.subId == s.id && decide (t0 ≤ d.publishedAt) && d.completedAt.isSome).map (·.msgId)) ∧
      o = { db := { db with snaps := db.snaps ++ [sn] }, wakes := [], val := newId } := by
  obtain ⟨hex, h⟩ := ok_of_if_error h
  split at h
  · cases h
  rename_i s hs
  obtain ⟨hfresh, h⟩ := ok_of_if_error h
  refine ⟨s, _, hex, hs, hfresh, rfl, rfl, rfl, ?_, (Except.ok.inj h).symm⟩
  simp only
  cases minPub (db.dels.filter fun d => d.subId == s.id && d.isOpen now) <;> exact ⟨rfl, rfl⟩

theorem deleteSnapshot_ok {db : Db} {name : String} {o : TxOut Unit} (h : deleteSnapshot db name = .ok o) :
    (db.snapByName name).isSome = true ∧
      o = { db := { db with snaps := db.snaps.filter (·.name != name) }, wakes := [], val := () } := by
  obtain ⟨hex, h⟩ := ok_of_if_error h
  exact ⟨Option.isNone_eq_false_iff.mp hex, (Except.ok.inj h).symm⟩

/-- (`deliverAll` also checks that every receiving subscription accepts the message: `mkRows_ind` says
    so row by row) -/
theorem deliverAll_ok {db : Db} {subs : List Sub} {m : Msg} {now : Time} {fwds : List Fwd}
    {db' : Db} {w : List Id} (h : deliverAll db subs m now fwds = .ok (db', w)) :
    (fwds.map (·.subId)).Nodup ∧
    (fwds.map (·.subId)).length = ((subs.filter (subAccepts · m.attrs)).map (·.id)).length ∧
    (fwds.map (·.newId)).Nodup ∧ (∀ f ∈ fwds, db.allIds.contains f.newId = false) ∧
    ∃ rows, mkRows db subs m now fwds = .ok rows ∧ db' = { db with dels := db.dels ++ rows } ∧
      w = fwds.map (·.subId) := by
  obtain ⟨h1, h⟩ := ok_of_if_not_error h
  obtain ⟨h2, h⟩ := ok_of_if_not_error h
  split at h
  · cases h
  rename_i rows hr
  obtain ⟨rfl, rfl⟩ := Prod.mk.inj (Except.ok.inj h)
  simp only [Bool.and_eq_true, beq_iff_eq, nodupIds_iff] at h1 h2
  exact ⟨h1.1.1, h1.1.2, h2.1, fun f hf => by simpa using List.all_eq_true.mp h2.2 f hf, rows, hr, rfl, rfl⟩

theorem deliverAll_shape {db : Db} {subs : List Sub} {m : Msg} {now : Time} {fwds : List Fwd}
    {db' : Db} {w : List Id} (h : deliverAll db subs m now fwds = .ok (db', w)) :
    ∃ rows, mkRows db subs m now fwds = .ok rows ∧ db' = { db with dels := db.dels ++ rows } ∧
      w = fwds.map (·.subId) :=
  (deliverAll_ok h).2.2.2.2

theorem publishOne_ok {db : Db} {t : Topic} {now : Time} {pm : PubMsg} {db' : Db} {w : List Id}
    (h : publishOne db t now pm = .ok (db', w)) :
    db.allIds.contains pm.id = false ∧
    ∃ m : Msg, m = { id := pm.id, topicId := t.id, payload := pm.payload, plen := pm.plen, attrs := pm.attrs,
                     publishedAt := now, orderKey := if pm.orderKey == "" then none else some pm.orderKey } ∧
      deliverAll { db with msgs := db.msgs ++ [m] } (db.liveSubsOf t.id) m now pm.fwds = .ok (db', w) := by
  obtain ⟨hf, h⟩ := ok_of_if_error h
  exact ⟨hf, _, rfl, h⟩

theorem publish_ok {db : Db} {now : Time} {topic : String} {tick : Int} {msgs : List PubMsg} {o : TxOut (List Id)}
    (h : publish db now topic tick msgs = .ok o) :
    ∃ t db' wakes, db.liveTopicByName topic = some t ∧ publishLoop t tick db now [] msgs = .ok (db', wakes) ∧
      o = { db := db', wakes := dedup wakes, val := msgs.map (·.id) } := by
  unfold publish at h
  split at h
  · cases h
  rename_i t ht
  split at h
  · cases h
  rename_i db' wakes hl
  exact ⟨t, db', wakes, ht, hl, (Except.ok.inj h).symm⟩

theorem dlForward_ok {db : Db} {d : Delivery} {dlt : Id} {now : Time} {fwds : List Fwd} {db1 : Db} {w : List Id}
    (h : dlForward db d dlt now fwds = .ok (db1, w)) :
    (fwds = [] ∧ db1 = db ∧ w = []) ∨
    ∃ t m, db.topics.find? (fun t => t.id == dlt && t.live) = some t ∧ db.msgById d.msgId = some m ∧
      deliverAll db (db.liveSubsOf t.id) m now fwds = .ok (db1, w) := by
  have empty : ∀ {why}, (if fwds.isEmpty then .ok (db, []) else badObs why) = Except.ok (db1, w) →
      fwds = [] ∧ db1 = db ∧ w = [] := fun h => by
    split at h
    · rename_i he
      obtain ⟨rfl, rfl⟩ := Prod.mk.inj (Except.ok.inj h)
      exact ⟨List.isEmpty_iff.mp he, rfl, rfl⟩
    · cases h
  unfold dlForward at h
  split at h
  · exact Or.inl (empty h)
  rename_i t ht
  split at h
  · exact Or.inl (empty h)
  split at h
  · cases h
  rename_i m hm
  exact Or.inr ⟨t, m, ht, hm, h⟩

theorem deadLetter_ok {db : Db} {d : Delivery} {dlt : Id} {now : Time} {fwds : List Fwd} {db' : Db} {w : List Id}
    (h : deadLetter db d dlt now fwds = .ok (db', w)) :
    ∃ db1 w1, dlForward db d dlt now fwds = .ok (db1, w1) ∧ (db1.delById d.id).isSome = true ∧
      db' = { db1 with dels := markCompleted d.id now db1.dels } ∧ w = w1 ++ [d.subId] := by
  unfold deadLetter at h
  split at h
  · cases h
  rename_i db1 w1 hf
  obtain ⟨hsome, h⟩ := ok_of_if_error h
  obtain ⟨rfl, rfl⟩ := Prod.mk.inj (Except.ok.inj h)
  exact ⟨db1, w1, hf, Option.isNone_eq_false_iff.mp hsome, rfl, rfl⟩

theorem deadLetter_shape {db : Db} {d : Delivery} {dlt : Id} {now : Time} {fwds : List Fwd}
    {db' : Db} {w : List Id} (h : deadLetter db d dlt now fwds = .ok (db', w)) :
    ∃ rows, db' = { db with dels := markCompleted d.id now (db.dels ++ rows) } := by
  obtain ⟨db1, w1, hf, _, rfl, _⟩ := deadLetter_ok h
  rcases dlForward_ok hf with ⟨_, rfl, _⟩ | ⟨t, m, _, _, hd⟩
  · exact ⟨[], by simp⟩
  · obtain ⟨rows, _, rfl, _⟩ := deliverAll_shape hd
    exact ⟨rows, rfl⟩

theorem obsDelay_ok {delays : List (Id × Int)} {i : Id} {s : Sub} {n : Nat} {δ : Int}
    (h : obsDelay delays i s n = .ok δ) : Backoff.delayOk (Backoff.nominal s.minBackoff s.maxBackoff n) δ = true := by
  unfold obsDelay at h
  split at h
  · cases h
  split at h
  · rename_i hok
    cases h
    exact hok
  · cases h

theorem pull_ok {db : Db} {now : Time} {sub : String} {max maxBytes : Nat} {strict : Bool} {wait : Int}
    {obs : PullObs} {o : TxOut PullRes} {now' : Time}
    (h : pull db now sub max maxBytes strict wait obs = .ok (o, now')) :
    ∃ s cands, db.liveSubByName sub = some s ∧ lookupAll db.delById obs.cands = some cands ∧
      candsOk (db.eligible s now) (db.dels.filter (db.eligible s now)) cands max = true ∧
      ((cands = [] ∧ now' = now + wait ∧
          o = { db := refreshExpiry (refreshExpiry db s now) s (now + wait), wakes := [],
                val := { delivered := [], numDL := 0 } }) ∨
       (cands ≠ [] ∧ now' = now ∧ ∃ acc,
          pullLoop s now maxBytes strict obs 0 cands
            { db := refreshExpiry (refreshExpiry db s now) s now, bytes := 0, delivered := [], numDL := 0,
              wakes := [] } = .ok acc ∧
          o = { db := { acc.db with dels := applyLeases now acc.delivered acc.db.dels }, wakes := dedup acc.wakes,
                val := { delivered := acc.delivered.map (fun (d, _) => (d.id, d.attempts + 1)),
                         numDL := acc.numDL } })) := by
  unfold pull at h
  split at h
  · cases h
  rename_i s hs
  simp only at h
  split at h
  · cases h
  rename_i cands hc
  obtain ⟨hok, h⟩ := ok_of_if_not_error h
  -- (`hok` speaks of `refreshExpiry db s now`, whose deliveries are those of `db`)
  refine ⟨s, cands, hs, hc, hok, ?_⟩
  split at h
  · rename_i he
    obtain ⟨rfl, rfl⟩ := Prod.mk.inj (Except.ok.inj h)
    exact Or.inl ⟨List.isEmpty_iff.mp he, rfl, rfl⟩
  rename_i hne
  split at h
  · cases h
  rename_i o' hd
  obtain ⟨rfl, rfl⟩ := Prod.mk.inj (Except.ok.inj h)
  unfold pullDeliver at hd
  split at hd
  · cases hd
  rename_i acc hl
  exact Or.inr ⟨fun e => hne (List.isEmpty_iff.mpr e), rfl, acc, hl, (Except.ok.inj hd).symm⟩

theorem perm_insertById (d : Delivery) : ∀ l : List Delivery, (insertById d l).Perm (d :: l)
  | [] => List.Perm.refl _
  | e :: r => by
    unfold insertById
    split
    · exact List.Perm.refl _
    · exact ((perm_insertById d r).cons e).trans (List.Perm.swap d e r)

theorem perm_sortById : ∀ l : List Delivery, (sortById l).Perm l
  | [] => List.Perm.refl _
  | d :: r => (perm_insertById d (sortById r)).trans ((perm_sortById r).cons d)

theorem nack_ok {db : Db} {now : Time} {ids : List Id} {delays : List (Id × Int)} {fwds : List (Id × List Fwd)}
    {o : TxOut (Nat × Nat)} (h : nack db now ids delays fwds = .ok o) :
    ∃ rows acc, rows = sortById (db.dels.filter fun d => ids.contains d.id && d.isOpen now) ∧
      nackLoop now delays fwds rows { db := db, numDL := 0, wakes := [] } = .ok acc ∧
      o = { db := acc.db, wakes := dedup acc.wakes, val := (rows.length, acc.numDL) } := by
  unfold nack at h
  simp only at h
  split at h
  · cases h
  rename_i acc hl
  exact ⟨_, acc, rfl, hl, (Except.ok.inj h).symm⟩

theorem dlTarget_iff (s : Sub) (d : Delivery) (t : Id) :
    s.dlTarget d = some t ↔ ∃ n, s.maxAttempts = some n ∧ s.dlTopicId = some t ∧ 0 < n ∧ n ≤ (d.attempts : Int) := by
  unfold Sub.dlTarget
  constructor
  · intro h
    split at h
    · rename_i n dlt hn hd
      split at h
      · rename_i hc
        injection h with h; subst h
        exact ⟨n, hn, hd, hc.1, hc.2⟩
      · cases h
    · cases h
  · rintro ⟨n, hn, hd, h1, h2⟩
    simp [hn, hd, h1, h2]

theorem sweepCand_spec {db : Db} {now : Time} {d : Delivery} (h : sweepCand db now d = true) :
    d.completedAt = none ∧ now < d.expiresAt ∧ d.attemptAt ≤ now ∧
    ∃ s n t, db.subById d.subId = some s ∧ s.live = true ∧ s.maxAttempts = some n ∧ s.dlTopicId = some t ∧
      0 < n ∧ n ≤ (d.attempts : Int) := by
  unfold sweepCand at h
  simp only [Bool.and_eq_true, decide_eq_true_eq, Delivery.isOpen_iff] at h
  obtain ⟨⟨⟨hopen, hret⟩, hdue⟩, h⟩ := h
  refine ⟨hopen, hret, hdue, ?_⟩
  split at h
  · cases h
  rename_i s hs
  rw [Bool.and_eq_true] at h
  split at h
  · rename_i n t hn ht
    simp only [Bool.and_eq_true, decide_eq_true_eq] at h
    exact ⟨s, n, t, hs, h.1, hn, ht, h.2.1, h.2.2⟩
  · cases h.2

theorem dlSweep_ok {db : Db} {now : Time} {max : Nat} {victims : List Id} {fwds : List (Id × List Fwd)}
    {o : TxOut Nat} (h : dlSweep db now max victims fwds = .ok o) :
    limitOk db.dels db.delById (sweepCand db now) victims max = true ∧
    ∃ rows db' wakes, lookupAll db.delById victims = some rows ∧ sweepLoop now fwds rows db [] = .ok (db', wakes) ∧
      o = { db := db', wakes := dedup wakes, val := rows.length } := by
  obtain ⟨hok, h⟩ := ok_of_if_not_error h
  split at h
  · cases h
  rename_i rows hrows
  split at h
  · cases h
  rename_i db' wakes hl
  exact ⟨hok, rows, db', wakes, hrows, hl, (Except.ok.inj h).symm⟩

/-- the wake set of `ack` and of a non-positive `delay`: the subscriptions of the rows the `UPDATE` matches -/
theorem mem_dedup_map_filter {p : Delivery → Bool} {l : List Delivery} {d : Delivery} (hd : d ∈ l) (hp : p d = true) :
    d.subId ∈ dedup ((l.filter p).map (·.subId)) :=
  mem_dedup (List.mem_map.mpr ⟨d, List.mem_filter.mpr ⟨hd, hp⟩, rfl⟩)

/-- both branches of `delay` are one `UPDATE`: the listed rows that are not completed and (for a
    positive `Δ`) due before the new deadline get `attemptAt = now + Δ`; only a non-positive `Δ` wakes -/
theorem delay_ok {db : Db} {now : Time} {ids : List Id} {Δ : Int} {o : TxOut Nat} (h : delay db now ids Δ = .ok o) :
    ∃ p : Delivery → Bool,
      (∀ d, p d = true ↔ ids.contains d.id = true ∧ d.completedAt = none ∧ (Δ ≤ 0 ∨ d.attemptAt < now + Δ)) ∧
      o = { db := { db with dels := updateWhere p (fun d => { d with attemptAt := now + Δ }) db.dels },
            wakes := if Δ ≤ 0 then dedup ((db.dels.filter p).map (·.subId)) else [],
            val := countWhere p db.dels } := by
  unfold delay at h
  simp only at h
  split at h
  · rename_i hle
    injection h with h
    refine ⟨_, fun d => ?_, by rw [if_pos hle]; exact h.symm⟩
    simp [hle, Option.isNone_iff_eq_none]
  · rename_i hlt
    injection h with h
    refine ⟨_, fun d => ?_, by rw [if_neg hlt]; exact h.symm⟩
    simp [hlt, Option.isNone_iff_eq_none, and_assoc]

theorem seekTime_ok {db : Db} {now : Time} {sub : String} {T : Time} {o : TxOut (Nat × Nat)}
    (h : seekTime db now sub T = .ok o) :
    ∃ s, db.liveSubByName sub = some s ∧
      let pAck : Delivery → Bool := fun d =>
        d.subId == s.id && decide (now ≤ d.expiresAt) && decide (d.publishedAt ≤ T) && d.completedAt.isNone
      let dels1 := updateWhere pAck (fun d => { d with completedAt := some now }) db.dels
      let pDe : Delivery → Bool := fun d =>
        d.subId == s.id && decide (now ≤ d.expiresAt) && decide (T < d.publishedAt) && d.completedAt.isSome
      let dels2 := updateWhere pDe
        (fun d => { d with completedAt := none, expiresAt := now + s.messageTtl, attemptAt := now }) dels1
      o = { db := { db with dels := dels2 },
            wakes := if countWhere pAck db.dels != 0 || countWhere pDe dels1 != 0 then [s.id] else [],
            val := (countWhere pAck db.dels, countWhere pDe dels1) } := by
  unfold seekTime at h
  split at h
  · cases h
  rename_i s hs
  exact ⟨s, hs, (Except.ok.inj h).symm⟩

/-- (the model skips the second `UPDATE` when the snapshot's acknowledged set is empty: it would match no
    row then, so it is stated here without the test) -/
theorem seekSnap_ok {db : Db} {now : Time} {sub snap : String} {o : TxOut (Nat × Nat)}
    (h : seekSnap db now sub snap = .ok o) :
    ∃ s sn, db.liveSubByName sub = some s ∧ db.snapByName snap = some sn ∧
      let p1 : Delivery → Bool := fun d =>
        d.subId == s.id && decide (now ≤ d.expiresAt) && decide (d.publishedAt < sn.ackedBefore) &&
          d.completedAt.isNone
      let dels1 := updateWhere p1 (fun d => { d with completedAt := some now }) db.dels
      let p2 : Delivery → Bool := fun d =>
        d.subId == s.id && decide (now ≤ d.expiresAt) && sn.ackedIds.contains d.msgId &&
          d.completedAt.isNone
      let dels2 := updateWhere p2 (fun d => { d with completedAt := some now }) dels1
      let p3 : Delivery → Bool := fun d =>
        d.subId == s.id && decide (sn.ackedBefore ≤ d.publishedAt) && !sn.ackedIds.contains d.msgId &&
          d.completedAt.isSome
      let dels3 := updateWhere p3
        (fun d => { d with completedAt := none, expiresAt := now + s.messageTtl, attemptAt := now }) dels2
      let na := countWhere p1 db.dels + countWhere p2 dels1
      let nd := countWhere p3 dels2
      o = { db := { db with dels := dels3 }, wakes := if na != 0 || nd != 0 then [s.id] else [],
            val := (na, nd) } := by
  unfold seekSnap at h
  split at h
  · cases h
  rename_i s hs
  split at h
  · cases h
  rename_i sn hsn
  refine ⟨s, sn, hs, hsn, ?_⟩
  cases he : sn.ackedIds.isEmpty <;> rw [he] at h
  · exact (Except.ok.inj h).symm
  · have hp : ∀ d : Delivery, (d.subId == s.id && decide (now ≤ d.expiresAt) && sn.ackedIds.contains d.msgId &&
        d.completedAt.isNone) = false := fun d => by simp [List.isEmpty_iff.mp he]
    simp only [updateWhere_of_false hp, countWhere_of_false hp]
    exact (Except.ok.inj h).symm

theorem expireSubs_ok {db : Db} {now : Time} {max : Nat} {victims : List Id} {o : TxOut Nat}
    (h : expireSubs db now max victims = .ok o) :
    limitOk db.subs db.subById (fun s => decide (s.expiresAt < now) && s.live) victims max = true ∧
      o = { db := { db with
              subs := updateWhere (fun s => victims.contains s.id) (fun s => { s with deletedAt := some now }) db.subs },
            wakes := victims, val := victims.length } := by
  obtain ⟨hok, h⟩ := ok_of_if_not_error h
  exact ⟨hok, (Except.ok.inj h).symm⟩

theorem pruneCompletedDeliveries_ok {db : Db} {now : Time} {minAge : Int} {max : Nat} {victims : List Id} {o : TxOut Nat}
    (h : pruneCompletedDeliveries db now minAge max victims = .ok o) :
    limitOk db.dels db.delById
      (fun d => match d.completedAt with | some c => decide (c ≤ now - minAge) | none => false) victims max = true ∧
      o = { db := deleteDeliveries db victims, wakes := [], val := victims.length } := by
  obtain ⟨hok, h⟩ := ok_of_if_not_error h
  exact ⟨hok, (Except.ok.inj h).symm⟩

theorem pruneExpiredDeliveries_ok {db : Db} {now : Time} {max : Nat} {victims : List Id} {o : TxOut Nat}
    (h : pruneExpiredDeliveries db now max victims = .ok o) :
    limitOk db.dels db.delById (fun d => decide (d.expiresAt < now)) victims max = true ∧
      o = { db := deleteDeliveries db victims,
            wakes := (db.subs.filter fun s =>
              s.ordered && db.dels.any fun d => d.subId == s.id && victims.contains d.id).map (·.id),
            val := victims.length } := by
  obtain ⟨hok, h⟩ := ok_of_if_not_error h
  exact ⟨hok, (Except.ok.inj h).symm⟩

theorem pruneDeletedSubDeliveries_ok {db : Db} {now : Time} {minAge : Int} {max : Nat} {victims : List Id} {o : TxOut Nat}
    (h : pruneDeletedSubDeliveries db now minAge max victims = .ok o) :
    limitOk db.dels db.delById
      (fun d => match (db.subById d.subId).bind (·.deletedAt) with
        | some t => decide (t ≤ now - minAge)
        | none => false) victims max = true ∧
      o = { db := deleteDeliveries db victims, wakes := [], val := victims.length } := by
  obtain ⟨hok, h⟩ := ok_of_if_not_error h
  exact ⟨hok, (Except.ok.inj h).symm⟩

theorem pruneCompletedMessages_ok {db : Db} {now : Time} {minAge : Int} {max : Nat} {victims : List Id} {o : TxOut Nat}
    (h : pruneCompletedMessages db now minAge max victims = .ok o) :
    limitOk db.msgs db.msgById
      (fun m => decide (m.publishedAt ≤ now - minAge) && !db.dels.any (·.msgId == m.id)) victims max = true ∧
      o = { db := { db with msgs := db.msgs.filter fun m => !victims.contains m.id }, wakes := [],
            val := victims.length } := by
  obtain ⟨hok, h⟩ := ok_of_if_not_error h
  exact ⟨hok, (Except.ok.inj h).symm⟩

theorem pruneDeletedSubs_ok {db : Db} {now : Time} {minAge : Int} {max : Nat} {victims : List Id} {o : TxOut Nat}
    (h : pruneDeletedSubs db now minAge max victims = .ok o) :
    limitOk db.subs db.subById
      (fun s => (match s.deletedAt with | some t => decide (t ≤ now - minAge) | none => false) &&
        !db.dels.any (·.subId == s.id)) victims max = true ∧
      o = { db := { db with subs := db.subs.filter fun s => !victims.contains s.id }, wakes := [],
            val := victims.length } := by
  obtain ⟨hok, h⟩ := ok_of_if_not_error h
  exact ⟨hok, (Except.ok.inj h).symm⟩

/-- (a victim is no subscription's dead-letter topic, so the model's `ON DELETE SET NULL` of that
    reference rewrites no subscription: stated here without it) -/
theorem pruneDeletedTopics_ok {db : Db} {now : Time} {minAge : Int} {max : Nat} {victims : List Id} {o : TxOut Nat}
    (h : pruneDeletedTopics db now minAge max victims = .ok o) :
    limitOk db.topics db.topicById
      (fun t => (match t.deletedAt with | some d => decide (d ≤ now - minAge) | none => false) &&
        !db.subs.any (·.topicId == t.id) && !db.subs.any (·.dlTopicId == some t.id)) victims max = true ∧
    (db.msgs.any (fun m => victims.contains m.topicId) || db.snaps.any (fun sn => victims.contains sn.topicId)) = false ∧
      o = { db := { db with topics := db.topics.filter fun t => !victims.contains t.id },
            wakes := [], val := victims.length } := by
  obtain ⟨hok, h⟩ := ok_of_if_not_error h
  obtain ⟨hfk, h⟩ := ok_of_if_error h
  refine ⟨hok, hfk, (Except.ok.inj h).symm.trans ?_⟩
  congr 2
  refine (List.map_congr_left fun s hs => ?_).trans (List.map_id _)
  split
  · rename_i d hd
    split
    · rename_i hc
      obtain ⟨t, ht, hp⟩ := limitOk_victims hok d (List.contains_iff_mem.mp hc)
      exact absurd (by rw [hd, (topicById_mem ht).2]) (forall_ne_of_not_any (Bool.and_eq_true_iff.mp hp).2 s hs)
    · rfl
  · rfl

/-! ### a tactic for frame facts of single actions

Which tables a successful call leaves alone.  Nothing calls it: the frame facts in use are read off
the lemmas above. -/

/-- unfold an action, split all its branches, and close each one: error branches are impossible,
    success branches leave the field untouched by `rfl` -/
macro "action_frame" f:ident h:ident : tactic =>
  `(tactic| (unfold $f at $h:ident; (try simp only at $h:ident); (repeat' split at $h:ident) <;>
      first | (injection $h:ident with $h:ident; subst $h:ident; rfl) | cases $h:ident))

end Mmmbbb

/-
Keyset paging (`Api.listPage`): following the page tokens from the first page visits every selected
row exactly once, in id order.

The sort is a permutation (`perm_sortId`) and, ids being distinct, strictly increasing
(`sortedLt_sortId`); a strictly increasing list is determined by its elements, which is all that is
used to compare the sort of one selection with a filter of the sort of another (`sortId_filter`).
-/
import Mmmbbb.Model.Api
namespace Mmmbbb.Api

variable {α : Type}

abbrev SortedLe (key : α → Id) (l : List α) : Prop := l.Pairwise (fun a b => key a ≤ key b)
abbrev SortedLt (key : α → Id) (l : List α) : Prop := l.Pairwise (fun a b => key a < key b)

theorem insertId_cons_le {key : α → Id} {x y : α} (r : List α) (h : key x ≤ key y) :
    insertId key x (y :: r) = x :: y :: r := by
  simp [insertId, h]

theorem insertId_cons_gt {key : α → Id} {x y : α} (r : List α) (h : ¬ key x ≤ key y) :
    insertId key x (y :: r) = y :: insertId key x r := by
  simp [insertId, h]

theorem perm_insertId {α} (key : α → Id) (x : α) : ∀ l : List α, (insertId key x l).Perm (x :: l)
  | [] => .refl _
  | y :: r => by
    unfold insertId
    split
    · exact .refl _
    · exact ((perm_insertId key x r).cons y).trans (.swap x y r)

theorem perm_sortId {α} (key : α → Id) : ∀ l : List α, (sortId key l).Perm l
  | [] => .refl _
  | a :: r => (perm_insertId key a (sortId key r)).trans ((perm_sortId key r).cons a)

theorem mem_sortId {α} (key : α → Id) (l : List α) (y : α) : y ∈ sortId key l ↔ y ∈ l :=
  (perm_sortId key l).mem_iff

theorem sortedLe_insertId (key : α → Id) (x : α) (l : List α) (h : SortedLe key l) : SortedLe key (insertId key x l) := by
  induction l with
  | nil => simp [insertId, SortedLe]
  | cons a r ih =>
    have ha := List.pairwise_cons.mp h
    by_cases hle : key x ≤ key a
    · rw [insertId_cons_le r hle]
      refine List.pairwise_cons.mpr ⟨?_, h⟩
      intro b hb
      rcases List.mem_cons.mp hb with rfl | hb
      · exact hle
      · exact Nat.le_trans hle (ha.1 b hb)
    · rw [insertId_cons_gt r hle]
      refine List.pairwise_cons.mpr ⟨?_, ih ha.2⟩
      intro b hb
      rcases List.mem_cons.mp ((perm_insertId key x r).mem_iff.mp hb) with rfl | hb
      · exact Nat.le_of_lt (Nat.lt_of_not_le hle)
      · exact ha.1 b hb

theorem sortedLe_sortId (key : α → Id) (l : List α) : SortedLe key (sortId key l) := by
  unfold sortId
  induction l with
  | nil => simp [SortedLe]
  | cons a r ih => exact sortedLe_insertId key a _ ih

theorem sortedLt_sortId (key : α → Id) (l : List α) (hd : l.Pairwise (fun a b => key a ≠ key b)) :
    SortedLt key (sortId key l) :=
  (sortedLe_sortId key l).imp₂ (fun _ _ => Nat.lt_of_le_of_ne)
    ((perm_sortId key l).symm.pairwise hd Ne.symm)

/-- with distinct keys, sorting a selection is selecting from the sort: both sides are strictly
    increasing and have the same elements -/
theorem sortId_filter (key : α → Id) (q : α → Bool) (l : List α) (hd : l.Pairwise (fun a b => key a ≠ key b)) :
    sortId key (l.filter q) = (sortId key l).filter q :=
  List.Perm.eq_of_pairwise (le := fun a b => key a < key b) (fun _ _ _ _ h h' => absurd h' (Nat.lt_asymm h))
    (sortedLt_sortId key _ (hd.sublist List.filter_sublist)) ((sortedLt_sortId key l hd).filter q)
    ((perm_sortId key _).trans ((perm_sortId key l).symm.filter q))

theorem filter_after_last (key : α → Id) (l₁ l₂ : List α) (h : SortedLt key (l₁ ++ l₂))
    (last : α) (hlast : l₁.getLast? = some last) :
    (l₁ ++ l₂).filter (fun r => decide (key last < key r)) = l₂ := by
  obtain ⟨h1, -, h12⟩ := List.pairwise_append.mp h
  obtain ⟨init, rfl⟩ := List.getLast?_eq_some_iff.mp hlast
  have hinit := (List.pairwise_append.mp h1).2.2
  rw [List.filter_append, List.filter_eq_nil_iff.mpr, List.filter_eq_self.mpr, List.nil_append]
  · intro b hb
    exact decide_eq_true (h12 last (List.mem_append_right _ (List.mem_singleton_self _)) b hb)
  · intro a ha
    rw [decide_eq_true_eq]
    rcases List.mem_append.mp ha with ha | ha
    · exact Nat.lt_asymm (hinit a ha last (List.mem_singleton_self _))
    · rw [List.mem_singleton.mp ha]; exact Nat.lt_irrefl _

/-- follow the tokens: the pages obtained from `after` on, concatenated -/
def walk (key : α → Id) (p : α → Bool) (rows : List α) (size : Nat) : Nat → Option Id → List α
  | 0, _ => []
  | fuel + 1, after =>
    match listPage key p rows after size with
    | (page, none) => page
    | (page, some t) => page ++ walk key p rows size fuel (some t)

theorem listPage_sel (key : α → Id) (p : α → Bool) (rows : List α) (after : Option Id)
    (hd : rows.Pairwise (fun a b => key a ≠ key b)) :
    sortId key (rows.filter fun r => p r && afterPred key after r) =
      (sortId key (rows.filter p)).filter (afterPred key after) := by
  rw [← sortId_filter key _ _ (hd.sublist List.filter_sublist), List.filter_filter]
  congr 1
  apply List.filter_congr
  intro x _
  exact Bool.and_comm _ _

theorem afterPred_of_lt (key : α → Id) {after : Option Id} {y x : α} (hy : afterPred key after y = true)
    (h : key y < key x) : afterPred key after x = true := by
  cases after with
  | none => rfl
  | some a => exact decide_eq_true (Nat.lt_trans (of_decide_eq_true hy) h)

theorem sel_next (key : α → Id) (S : List α) (hS : SortedLt key S) (after : Option Id) (size : Nat) (last : α)
    (hlast : ((S.filter (afterPred key after)).take size).getLast? = some last) :
    S.filter (afterPred key (some (key last))) = (S.filter (afterPred key after)).drop size := by
  have hdrop := filter_after_last key _ _ (by rw [List.take_append_drop]; exact hS.filter _) last hlast
  rw [List.take_append_drop, List.filter_filter] at hdrop
  rw [← hdrop]
  apply List.filter_congr
  intro x _
  -- beyond `last`, which the token admits, the token admits everything
  have hla := (List.mem_filter.mp (List.mem_of_mem_take (List.mem_of_getLast? hlast))).2
  exact Bool.eq_self_and.mpr fun h => afterPred_of_lt key hla (of_decide_eq_true h)

theorem walk_spec (key : α → Id) (p : α → Bool) (rows : List α) (size : Nat) (hsize : 0 < size)
    (hd : rows.Pairwise (fun a b => key a ≠ key b)) (fuel : Nat) (after : Option Id)
    (hf : ((sortId key (rows.filter p)).filter (afterPred key after)).length < fuel) :
    walk key p rows size fuel after = (sortId key (rows.filter p)).filter (afterPred key after) := by
  have hS : SortedLt key (sortId key (rows.filter p)) :=
    sortedLt_sortId key _ (hd.sublist List.filter_sublist)
  induction fuel generalizing after with
  | zero => omega
  | succ fuel ih =>
    unfold walk listPage
    simp only []  -- the `let`s of `listPage`
    rw [listPage_sel key p rows after hd]
    have hnext := sel_next key _ hS after size
    generalize (sortId key (rows.filter p)).filter (afterPred key after) = T at hf hnext ⊢
    by_cases hfull : size ≤ (T.take size).length
    · obtain ⟨last, hlast⟩ := Option.isSome_iff_exists.mp
        (List.getLast?_isSome.mpr (List.ne_nil_of_length_pos (Nat.lt_of_lt_of_le hsize hfull)))
      rw [if_pos hfull, hlast]
      simp only [Option.map_some]
      rw [List.length_take] at hfull
      rw [ih _ (by rw [hnext last hlast, List.length_drop]; omega), hnext last hlast, List.take_append_drop]
    · rw [if_neg hfull]
      rw [List.length_take] at hfull
      exact List.take_of_length_le (by omega)

end Mmmbbb.Api

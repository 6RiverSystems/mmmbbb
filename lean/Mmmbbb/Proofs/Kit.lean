/-
Lemmas about the relational kit and the delivery predicates of `Model/Basic.lean` (lookups by key,
`allIds`, `isOpen`, `predDone`, `eligible`, `updateWhere`, `countWhere`), and the two lemmas that take
an action past a guard.
-/
import Mmmbbb.Model.Basic
namespace Mmmbbb

section
variable {ε α : Type _} {b : Bool} {e : ε} {x : Except ε α} {o : α}

/-- (Applied to `h : f … = .ok o` for an action `f` whose body starts with such a guard: unification
    opens `f`.) -/
theorem ok_of_if_error (h : (if b then .error e else x) = .ok o) : b = false ∧ x = .ok o := by
  cases b
  · exact ⟨rfl, h⟩
  · cases h

theorem ok_of_if_not_error (h : (if !b then .error e else x) = .ok o) : b = true ∧ x = .ok o := by
  cases b
  · cases h
  · exact ⟨rfl, h⟩

end

theorem find?_key {α} {key : α → Id} {l : List α} {i : Id} {x : α}
    (h : l.find? (fun y => key y == i) = some x) : x ∈ l ∧ key x = i :=
  ⟨List.mem_of_find?_eq_some h, by simpa using List.find?_some h⟩

theorem topicById_mem {db : Db} {i : Id} {t : Topic} (h : db.topicById i = some t) : t ∈ db.topics ∧ t.id = i :=
  find?_key (key := Topic.id) (l := db.topics) h
theorem subById_mem {db : Db} {i : Id} {s : Sub} (h : db.subById i = some s) : s ∈ db.subs ∧ s.id = i :=
  find?_key (key := Sub.id) (l := db.subs) h
theorem msgById_mem {db : Db} {i : Id} {m : Msg} (h : db.msgById i = some m) : m ∈ db.msgs ∧ m.id = i :=
  find?_key (key := Msg.id) (l := db.msgs) h
theorem delById_mem {db : Db} {i : Id} {d : Delivery} (h : db.delById i = some d) : d ∈ db.dels ∧ d.id = i :=
  find?_key (key := Delivery.id) (l := db.dels) h

theorem msgById_congr {db db' : Db} (h : db'.msgs = db.msgs) (i : Id) : db'.msgById i = db.msgById i := by
  unfold Db.msgById; rw [h]

theorem liveSubByName_mem {db : Db} {n : String} {s : Sub} (h : db.liveSubByName n = some s) : s ∈ db.subs ∧ s.live = true := by
  have := List.find?_some h
  simp only [Bool.and_eq_true] at this
  exact ⟨List.mem_of_find?_eq_some h, this.2⟩

theorem liveSubsOf_mem {db : Db} {tid : Id} {s : Sub} (h : s ∈ db.liveSubsOf tid) : s ∈ db.subs ∧ s.live = true := by
  have := List.mem_filter.mp h
  simp only [Bool.and_eq_true] at this
  exact ⟨this.1, this.2.2⟩

theorem find?_map_key {α} {key : α → Id} (g : α → α) (hg : ∀ x, key (g x) = key x) (l : List α) (i : Id) :
    (l.map g).find? (fun y => key y == i) = (l.find? (fun y => key y == i)).map g := by
  rw [List.find?_map]
  have : ((fun y => key y == i) ∘ g) = fun y => key y == i := by
    funext x; simp [Function.comp, hg]
  rw [this]

theorem find?_of_nodup_mem {α} (key : α → Id) : ∀ (l : List α) (x : α),
    (l.map key).Nodup → x ∈ l → l.find? (fun y => key y == key x) = some x := by
  intro l
  induction l with
  | nil => intro x _ hx; cases hx
  | cons a r ih =>
    intro x hnd hx
    rw [List.map_cons, List.nodup_cons] at hnd
    rcases List.mem_cons.mp hx with rfl | hx
    · simp [List.find?]
    · have hne : key a ≠ key x := fun e => hnd.1 (e ▸ List.mem_map.mpr ⟨x, hx, rfl⟩)
      have : (key a == key x) = false := by simpa using hne
      simp only [List.find?, this]
      exact ih x hnd.2 hx

theorem eq_of_nodup_ids {l : List Delivery} (h : (l.map (·.id)).Nodup) {a b : Delivery} (ha : a ∈ l) (hb : b ∈ l)
    (hid : a.id = b.id) : a = b :=
  Option.some.inj ((find?_of_nodup_mem Delivery.id l a h ha).symm.trans (hid ▸ find?_of_nodup_mem Delivery.id l b h hb))

theorem delById_of_mem {db : Db} (hu : (db.dels.map (·.id)).Nodup) {q : Delivery} (hq : q ∈ db.dels) :
    db.delById q.id = some q := find?_of_nodup_mem Delivery.id db.dels q hu hq

theorem find?_append_of_some {α} {p : α → Bool} {l r : List α} {x : α} (h : l.find? p = some x) :
    (l ++ r).find? p = some x := by
  rw [List.find?_append, h]; rfl

theorem find?_congr {α} {p q : α → Bool} : ∀ {l : List α}, (∀ x ∈ l, p x = q x) → l.find? p = l.find? q
  | [], _ => rfl
  | x :: r, h => by
    rw [List.find?_cons, List.find?_cons, h x List.mem_cons_self, find?_congr fun y hy => h y (List.mem_cons_of_mem _ hy)]

/-- a `DELETE` that spares every row a lookup could find does not change what it finds -/
theorem find?_filter_keep {α} (l : List α) (keep : α → Bool) (q : α → Bool)
    (h : ∀ m ∈ l, q m = true → keep m = true) : (l.filter keep).find? q = l.find? q := by
  rw [List.find?_filter]
  refine find?_congr fun m hm => ?_
  cases hq : q m
  · simp
  · simp [h m hm hq]

theorem allIds_contains {db : Db} {i : Id} : db.allIds.contains i = true ↔
    i ∈ db.topics.map (·.id) ∨ i ∈ db.subs.map (·.id) ∨ i ∈ db.msgs.map (·.id) ∨ i ∈ db.dels.map (·.id) ∨
      i ∈ db.snaps.map (·.id) := by
  simp only [List.contains_iff_mem, Db.allIds, List.mem_append, or_assoc]

theorem allIds_of_sub {db : Db} {s : Sub} (hs : s ∈ db.subs) : db.allIds.contains s.id = true :=
  allIds_contains.mpr (.inr (.inl (List.mem_map_of_mem hs)))

theorem allIds_of_msg {db : Db} {x : Msg} (hx : x ∈ db.msgs) : db.allIds.contains x.id = true :=
  allIds_contains.mpr (.inr (.inr (.inl (List.mem_map_of_mem hx))))

theorem allIds_of_del {db : Db} {e : Delivery} (he : e ∈ db.dels) : db.allIds.contains e.id = true :=
  allIds_contains.mpr (.inr (.inr (.inr (.inl (List.mem_map_of_mem he)))))

theorem decide_lt_eq_not_le (a b : Int) : decide (a < b) = !decide (b ≤ a) := by
  by_cases h : b ≤ a
  · simp [h, Int.not_lt.mpr h]
  · simp [h, Int.not_le.mp h]

theorem decide_le_eq_not_lt (a b : Int) : decide (a ≤ b) = !decide (b < a) := by
  rw [decide_lt_eq_not_le, Bool.not_not]

theorem Delivery.isOpen_iff {now : Time} {d : Delivery} :
    d.isOpen now = true ↔ d.completedAt = none ∧ now < d.expiresAt := by
  simp [Delivery.isOpen, Option.isNone_iff_eq_none]

theorem isOpen_false_iff {now : Time} {d : Delivery} :
    d.isOpen now = false ↔ (d.completedAt.isSome = true ∨ d.expiresAt ≤ now) := by
  unfold Delivery.isOpen
  cases h : d.completedAt <;> simp [Int.not_lt]

theorem Db.eligible_iff {db : Db} {s : Sub} {now : Time} {d : Delivery} :
    db.eligible s now d = true ↔ d.subId = s.id ∧ d.completedAt = none ∧ now < d.expiresAt ∧ d.attemptAt ≤ now ∧
      (s.ordered = true → db.predDone now d = true) := by
  simp only [Db.eligible, Bool.and_eq_true, Bool.or_eq_true, Bool.not_eq_true', beq_iff_eq, decide_eq_true_eq,
    Delivery.isOpen_iff, and_assoc]
  cases s.ordered <;> simp

theorem predDone_iff {db : Db} {now : Time} {d : Delivery} :
    db.predDone now d = true ↔ d.notBefore = none ∨ ∃ p q, d.notBefore = some p ∧ db.delById p = some q ∧
      (q.completedAt.isSome = true ∨ q.expiresAt ≤ now) := by
  unfold Db.predDone
  cases d.notBefore with
  | none => simp
  | some p => cases hq : db.delById p <;> simp [hq]

section
variable {α : Type _} {p : α → Bool} {f : α → α} {l : List α}

theorem mem_updateWhere_of_false {x : α} (hx : x ∈ l) (hp : p x = false) : x ∈ updateWhere p f l :=
  List.mem_map.mpr ⟨x, hx, by simp [hp]⟩

theorem find?_updateWhere {key : α → Id} (hf : ∀ x, key (f x) = key x) (i : Id) :
    (updateWhere p f l).find? (fun y => key y == i) =
      (l.find? (fun y => key y == i)).map fun x => if p x then f x else x :=
  find?_map_key _ (by intro x; split <;> simp [hf]) l i

theorem countWhere_eq_zero_iff : countWhere p l = 0 ↔ ∀ x ∈ l, ¬ p x = true :=
  List.length_eq_zero_iff.trans List.filter_eq_nil_iff

theorem countWhere_of_false (h : ∀ x, p x = false) : countWhere p l = 0 :=
  countWhere_eq_zero_iff.mpr fun x _ => Bool.eq_false_iff.mp (h x)

theorem updateWhere_of_count_zero (h : countWhere p l = 0) : updateWhere p f l = l :=
  (List.map_congr_left fun x hx => if_neg (countWhere_eq_zero_iff.mp h x hx)).trans (List.map_id l)

theorem updateWhere_of_false (h : ∀ x, p x = false) : updateWhere p f l = l :=
  updateWhere_of_count_zero (countWhere_of_false h)

theorem find?_updateWhere_self (p : α → Bool) (f : α → α) (l : List α) (h : ∀ x, p x = true → p (f x) = false) :
    (updateWhere p f l).find? p = none := by
  rw [List.find?_eq_none]
  intro y hy
  obtain ⟨x, -, rfl⟩ := List.mem_map.mp hy
  by_cases hp : p x = true
  · rw [if_pos hp, h x hp]; nofun
  · rw [if_neg hp]; exact hp

theorem updateWhere_idem (f' : α → α) (h : ∀ d, p d = true → p (f d) = false) :
    updateWhere p f' (updateWhere p f l) = updateWhere p f l :=
  updateWhere_of_count_zero (countWhere_eq_zero_iff.mpr (List.find?_eq_none.mp (find?_updateWhere_self p f l h)))

end

end Mmmbbb

/-
C09 — Atomicity under storage failure.

"If the storage fails, or the request context is cancelled, at any point while publish, ack, nack,
modify-deadline, pull, seek, create or delete is being processed, the operation has no partial
effect: either every row change of the operation is visible afterwards or none is, the caller gets
an error in the latter case, no waiting consumer is notified of a change that did not commit, and
retrying the operation has the same effect as if the failure had not happened."

The model states what is left behind by a fault inside transaction `k` of an operation
(`stepFaulted`); the runner `TestC09` injects a failure, and separately a context cancellation, at
every SQL statement (BEGIN and COMMIT included) of every mutating operation of the implementation
and checks that what is left is what `stepFaulted` says, that nobody was woken, and that the retry
reaches the state of the undisturbed twin.
-/
import Mmmbbb.Model.Tx
import Mmmbbb.Proofs.StepFrame
import Mmmbbb.Extracted
namespace Mmmbbb

/-- **C09 (all or nothing)**: a fault in an operation's only transaction — and for pull, in its first —
    leaves all five tables and the clock as they were, the caller gets an error and nobody is woken. -/
theorem C09_fault_no_effect (st : St) (op : Op) (k : Nat) (h : (∀ s a b c d e, op ≠ .pull s a b c d e) ∨ k ≠ 1) :
    (stepFaulted st op k).1 = st ∧ (stepFaulted st op k).2.ok = false ∧ (stepFaulted st op k).2.wakes = [] := by
  unfold stepFaulted
  split
  · rename_i s a b c d e
    rcases h with h | h
    · exact absurd rfl (h s a b c d e)
    · exact absurd rfl h
  · exact ⟨rfl, rfl, rfl⟩

/-- **C09 (pull, second transaction)** — the one stated exception: the subscription check of a pull has
    committed before the delivery transaction starts, so a fault in the delivery transaction leaves
    the refreshed `expiresAt` of *the pulled subscription* (what C14 asks of every pull) and nothing
    else: topics, messages, deliveries and snapshots are untouched, no row appears or disappears,
    and a subscription row either is unchanged or is the pulled one (same id as the live
    subscription of that name) with only `expiresAt` rewritten to `now + ttl`; the caller gets an
    error and nobody is woken. -/
theorem C09_fault_pull (st : St) (s : String) (a b : Nat) (c : Bool) (d : Int) (e : PullObs) :
    let r := stepFaulted st (.pull s a b c d e) 1
    r.1.db.topics = st.db.topics ∧ r.1.db.msgs = st.db.msgs ∧ r.1.db.dels = st.db.dels ∧ r.1.db.snaps = st.db.snaps ∧
    r.1.now = st.now ∧ r.2.ok = false ∧ r.2.wakes = [] ∧
    r.1.db.subs.length = st.db.subs.length ∧
    (∀ (i : Nat) (x y : Sub), st.db.subs[i]? = some x → r.1.db.subs[i]? = some y →
      y = x ∨ (∃ sub, st.db.liveSubByName s = some sub ∧ x.id = sub.id ∧ y = { x with expiresAt := st.now + sub.ttl })) := by
  simp only [stepFaulted, faultEffect]
  cases hs : st.db.liveSubByName s with
  | none =>
    refine ⟨rfl, rfl, rfl, rfl, rfl, rfl, rfl, rfl, ?_⟩
    intro i x y hx hy
    rw [hx] at hy
    injection hy with hy
    exact Or.inl hy.symm
  | some sub =>
    refine ⟨rfl, rfl, rfl, rfl, rfl, rfl, rfl, ?_, ?_⟩
    · simp [refreshExpiry, updateWhere]
    · intro i x y hx hy
      simp only [refreshExpiry, updateWhere, List.getElem?_map, hx, Option.map_some] at hy
      injection hy with hy
      by_cases hid : (x.id == sub.id) = true
      · rw [if_pos hid] at hy
        exact Or.inr ⟨sub, rfl, by simpa using hid, hy.symm⟩
      · rw [if_neg hid] at hy; exact Or.inl hy.symm

/-- **C09 (retry)**: after a fault that left nothing behind, retrying the operation is the undisturbed
    operation.  (The case the hypothesis excludes, a pull hit in its second transaction, has no
    theorem: there the retry meets the already refreshed expiry, and `refreshExpiry_idem` says that
    refreshing it again at the same instant writes the same value.) -/
theorem C09_retry (st : St) (op : Op) (k : Nat) (h : (∀ s a b c d e, op ≠ .pull s a b c d e) ∨ k ≠ 1) :
    step (stepFaulted st op k).1 op = step st op := by
  rw [(C09_fault_no_effect st op k h).1]

theorem refreshExpiry_idem (db : Db) (s : Sub) (now : Time) :
    refreshExpiry (refreshExpiry db s now) s now = refreshExpiry db s now := by
  simp only [refreshExpiry, updateWhere, List.map_map]
  congr 1
  apply List.map_congr_left
  intro x _
  simp only [Function.comp]
  by_cases h : (x.id == s.id) = true <;> simp [h]

/-- **C09 (errors of the operation itself)**: when the operation answers with an error — whatever the
    reason — nothing was committed and nobody is woken. -/
theorem C09_error_no_effect (st : St) (op : Op) (h : (step st op).2.ok = false) :
    (step st op).1 = st ∧ (step st op).2.wakes = [] :=
  ⟨(step_err h).1, (step_err h).2.1⟩

/-- **C09 (no wake-up without commit)**: every place in the source that schedules a wake-up does so
    from a commit hook (`OnCommit`) whose body runs only when the commit returned no error — the
    extractor lists every registration with its guard — and the only wake-up calls outside such
    hooks are in the LISTEN/NOTIFY relay `notifier.go`, which relays notifications that another
    process sent after *its* commit. -/
theorem C09_hooks_guarded :
    (∀ h ∈ Extracted.commitHooks, h.2 = "guarded") ∧
    (∀ w ∈ Extracted.strayWakes, w.1 = "notifier.go") :=
  -- (the statement does not depend on how many hooks there are, in which functions they sit, or in
  -- which order the extractor lists them)
  ⟨by decide, by decide⟩

/-- non-vacuity: a pull on a live subscription hit in its second transaction does change the expiry -/
example :
    let sub : Sub := { id := 1, name := "s", topicId := 1, createdAt := 0, expiresAt := 5, deletedAt := none, ttl := 100, messageTtl := 10, ordered := false, labels := [], minBackoff := none, maxBackoff := none, pushEndpoint := none, filter := none, maxAttempts := none, dlTopicId := none, deliveryDelay := 0 }
    let st : St := { db := { subs := [sub] }, now := 7 }
    ((stepFaulted st (.pull "s" 1 1 false 0 ⟨[], [], []⟩) 1).1.db.subs.map (·.expiresAt)) = [107] := by
  simp [stepFaulted, faultEffect, Db.liveSubByName, Sub.live, refreshExpiry, updateWhere]

end Mmmbbb

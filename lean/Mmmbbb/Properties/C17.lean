/-
C17 — Configuration round-trips: what was set is what Get returns and what is enforced.

"Creating a topic or subscription and then reading it back returns the same configuration (labels,
retention, expiration TTL, ordering flag, filter, retry policy, dead-letter policy, push endpoint)
for every accepted value, with documented defaults filled in.  An update changes exactly the fields
named in its mask and nothing else, and every duration survives storage exactly."

The stored-duration codec on SQLite is `time.Duration.String` / `time.ParseDuration` (Go standard
library, trusted; swept by the correspondence run); the PostgreSQL interval format is modelled by
`pgInterval` below.
-/
import Mmmbbb.Model.Api
import Mmmbbb.Properties.C16
namespace Mmmbbb.Api

/-- the documented defaults, from the source: 30 days, 7 days, 5 attempts -/
theorem C17_defaults :
    Extracted.defaultSubscriptionTTL = 30 * 24 * 3600 * 1000000000 ∧
    Extracted.defaultSubscriptionMessageTTL = 7 * 24 * 3600 * 1000000000 ∧
    Extracted.defaultDeadLetterMaxAttempts = 5 := by decide

/-- **C17 (what Create stores)**: the row `CreateSubscription` inserts carries the requested name,
    labels, ordering flag, TTL and retention (the documented default when 0), expiry `now` + TTL, filter
    (absent when empty) and the resolved topic and dead-letter topic.  The back-off bounds, the push
    endpoint and the dead-letter attempts are not among the conjuncts. -/
theorem C17_create_stores (now : Time) (r : SubReq) (i tid : Id) (dl : Option Id) :
    let s := mkSub now (toParams r) i tid dl
    s.name = r.name ∧ s.labels = r.labels ∧ s.ordered = r.ordering ∧
    s.ttl = (if r.expiration == 0 then Extracted.defaultSubscriptionTTL else r.expiration) ∧
    s.messageTtl = (if r.retention == 0 then Extracted.defaultSubscriptionMessageTTL else r.retention) ∧
    s.expiresAt = now + s.ttl ∧
    s.filter = (if r.filter == "" then none else some r.filter) ∧
    s.dlTopicId = dl ∧ s.topicId = tid ∧ s.deliveryDelay = 0 ∧ s.deletedAt = none := by
  exact ⟨rfl, rfl, rfl, rfl, rfl, rfl, rfl, rfl, rfl, rfl, rfl⟩

/-- **C17 (Get after Create)**: right after a successful `CreateSubscription`, the subscription that
    `GetSubscription` finds under that name is exactly the stored row. -/
theorem C17_get_after_create (db : Db) (now : Time) (p : CreateSubParams) (i : Id) (o : TxOut Id)
    (h : createSub db now p i = .ok o) :
    ∃ t dl, db.liveTopicByName p.topicName = some t ∧ o.db.liveSubByName p.name = some (mkSub now p i t.id dl) := by
  obtain ⟨t, dl, ht, _, hnone, _, hdb, _⟩ := createSub_ok h
  refine ⟨t, dl, ht, ?_⟩
  -- no live row had the name, so the lookup falls through to the appended row
  have hold : db.subs.find? (fun s => s.name == p.name && s.live) = none :=
    Option.not_isSome_iff_eq_none.mp (Bool.eq_false_iff.mp hnone)
  rw [hdb]
  unfold Db.liveSubByName
  simp only
  rw [List.find?_append, hold]
  simp [mkSub, Sub.live]

/-- `apply` runs nine setters one after the other, each under `match u.f with | some a => … | none => s`.
    A projection `g` that every setter whose mask entry is present leaves alone comes out unchanged.
    Each hypothesis has the default proof `rfl` for all arguments, which is the proof when `g` is a
    field the setter does not write; a caller names only the setters that could write its field. -/
theorem SubUpdate.apply_proj {β} (g : Sub → β) (u : SubUpdate) (now : Time) (s : Sub)
    (hLabels : ∀ a, u.labels = some a → ∀ x, g { x with labels := a } = g x := by intros; rfl)
    (hTtl : ∀ a, u.ttl = some a → ∀ x, g { x with ttl := a, expiresAt := now + a } = g x := by intros; rfl)
    (hMessageTtl : ∀ a, u.messageTtl = some a → ∀ x, g { x with messageTtl := a } = g x := by intros; rfl)
    (hOrdered : ∀ a, u.ordered = some a → ∀ x, g { x with ordered := a } = g x := by intros; rfl)
    (hMinBackoff : ∀ a, u.minBackoff = some a → ∀ x, g { x with minBackoff := a } = g x := by intros; rfl)
    (hMaxBackoff : ∀ a, u.maxBackoff = some a → ∀ x, g { x with maxBackoff := a } = g x := by intros; rfl)
    (hPush : ∀ a, u.push = some a → ∀ x, g { x with pushEndpoint := a } = g x := by intros; rfl)
    (hFilter : ∀ a, u.filter = some a → ∀ x, g { x with filter := a } = g x := by intros; rfl)
    (hDl : ∀ a, u.dl = some a → ∀ t n x, g { x with dlTopicId := t, maxAttempts := n } = g x := by intros; rfl) :
    g (u.apply now s) = g s := by
  unfold SubUpdate.apply
  -- one step per layer, so that the cost is the number of layers and not the number of masks
  extract_lets s1 s2 s3 s4 s5 s6 s7 s8
  have h1 : g s1 = g s := by
    unfold s1
    split
    · exact hLabels _ ‹_› _
    · rfl
  have h2 : g s2 = g s1 := by
    unfold s2
    split
    · exact hTtl _ ‹_› _
    · rfl
  have h3 : g s3 = g s2 := by
    unfold s3
    split
    · exact hMessageTtl _ ‹_› _
    · rfl
  have h4 : g s4 = g s3 := by
    unfold s4
    split
    · exact hOrdered _ ‹_› _
    · rfl
  have h5 : g s5 = g s4 := by
    unfold s5
    split
    · exact hMinBackoff _ ‹_› _
    · rfl
  have h6 : g s6 = g s5 := by
    unfold s6
    split
    · exact hMaxBackoff _ ‹_› _
    · rfl
  have h7 : g s7 = g s6 := by
    unfold s7
    split
    · exact hPush _ ‹_› _
    · rfl
  have h8 : g s8 = g s7 := by
    unfold s8
    split
    · exact hFilter _ ‹_› _
    · rfl
  rw [← h1, ← h2, ← h3, ← h4, ← h5, ← h6, ← h7, ← h8]
  split
  · exact hDl _ ‹_› _ _ _
  · exact hDl _ ‹_› _ _ _
  · rfl

/-- fields an update never touches, whatever the mask -/
theorem C17_apply_identity (u : SubUpdate) (now : Time) (s : Sub) :
    (u.apply now s).id = s.id ∧ (u.apply now s).name = s.name ∧ (u.apply now s).topicId = s.topicId ∧
    (u.apply now s).createdAt = s.createdAt ∧ (u.apply now s).deletedAt = s.deletedAt ∧
    (u.apply now s).deliveryDelay = s.deliveryDelay :=
  ⟨u.apply_proj (·.id) now s, u.apply_proj (·.name) now s, u.apply_proj (·.topicId) now s,
   u.apply_proj (·.createdAt) now s, u.apply_proj (·.deletedAt) now s, u.apply_proj (·.deliveryDelay) now s⟩

/-- a pending update that does not set a field leaves that field of the row alone -/
theorem C17_apply_frame (u : SubUpdate) (now : Time) (s : Sub) :
    (u.labels = none → (u.apply now s).labels = s.labels) ∧
    (u.ttl = none → (u.apply now s).ttl = s.ttl ∧ (u.apply now s).expiresAt = s.expiresAt) ∧
    (u.messageTtl = none → (u.apply now s).messageTtl = s.messageTtl) ∧
    (u.ordered = none → (u.apply now s).ordered = s.ordered) ∧
    (u.minBackoff = none → (u.apply now s).minBackoff = s.minBackoff) ∧
    (u.maxBackoff = none → (u.apply now s).maxBackoff = s.maxBackoff) ∧
    (u.push = none → (u.apply now s).pushEndpoint = s.pushEndpoint) ∧
    (u.filter = none → (u.apply now s).filter = s.filter) ∧
    (u.dl = none → (u.apply now s).dlTopicId = s.dlTopicId ∧ (u.apply now s).maxAttempts = s.maxAttempts) :=
  -- the one setter that writes the field cannot run: `e : u.f = some _` against `h : u.f = none`
  ⟨fun h => u.apply_proj (·.labels) now s (hLabels := fun _ e => nomatch h ▸ e),
   fun h => ⟨u.apply_proj (·.ttl) now s (hTtl := fun _ e => nomatch h ▸ e),
     u.apply_proj (·.expiresAt) now s (hTtl := fun _ e => nomatch h ▸ e)⟩,
   fun h => u.apply_proj (·.messageTtl) now s (hMessageTtl := fun _ e => nomatch h ▸ e),
   fun h => u.apply_proj (·.ordered) now s (hOrdered := fun _ e => nomatch h ▸ e),
   fun h => u.apply_proj (·.minBackoff) now s (hMinBackoff := fun _ e => nomatch h ▸ e),
   fun h => u.apply_proj (·.maxBackoff) now s (hMaxBackoff := fun _ e => nomatch h ▸ e),
   fun h => u.apply_proj (·.pushEndpoint) now s (hPush := fun _ e => nomatch h ▸ e),
   fun h => u.apply_proj (·.filter) now s (hFilter := fun _ e => nomatch h ▸ e),
   fun h => ⟨u.apply_proj (·.dlTopicId) now s (hDl := fun _ e => nomatch h ▸ e),
     u.apply_proj (·.maxAttempts) now s (hDl := fun _ e => nomatch h ▸ e)⟩⟩

/-- `pathUpdate` is a chain of `if p == "…"`, each branch a setter on the pending update.  A projection
    `g` that the setter of the branch taken leaves alone comes out unchanged.  (By default a setter
    leaves `g` alone by computation.) -/
theorem pathUpdate_proj {β} (g : SubUpdate → β) (db : Db) (r : SubReq) (p : String) (u : SubUpdate × String)
    (hLabels : p = "labels" → ∀ a, g { u.1 with labels := a } = g u.1 := by intros; rfl)
    (hTtl : p = "expiration_policy" → ∀ a, g { u.1 with ttl := a } = g u.1 := by intros; rfl)
    (hMessageTtl : p = "message_retention_duration" → ∀ a, g { u.1 with messageTtl := a } = g u.1 := by intros; rfl)
    (hOrdered : p = "enable_message_ordering" → ∀ a, g { u.1 with ordered := a } = g u.1 := by intros; rfl)
    (hRetry : p = "retry_policy" → ∀ a b, g { u.1 with minBackoff := a, maxBackoff := b } = g u.1 := by intros; rfl)
    (hPush : p = "push_config" → ∀ a, g { u.1 with push := a } = g u.1 := by intros; rfl)
    (hFilter : p = "filter" → ∀ a, g { u.1 with filter := a } = g u.1 := by intros; rfl)
    (hDl : p = "dead_letter_policy" → ∀ a, g { u.1 with dl := a } = g u.1 := by intros; rfl) :
    g (pathUpdate db r p u).1 = g u.1 := by
  -- `split` is not used on the chain: its cost doubles with every `else if`
  have branch {c : Prop} [Decidable c] {a b : SubUpdate × String} (ha : c → g a.1 = g u.1) (hb : g b.1 = g u.1) :
      g (if c then a else b).1 = g u.1 := iteInduction (motive := fun x : SubUpdate × String => g x.1 = g u.1) ha fun _ => hb
  unfold pathUpdate
  refine branch (fun e => hLabels (eq_of_beq e) _) <| branch (fun e => hTtl (eq_of_beq e) _) <|
    branch (fun e => hMessageTtl (eq_of_beq e) _) <| branch (fun e => hOrdered (eq_of_beq e) _) <|
    branch (fun e => hRetry (eq_of_beq e) _ _) <| branch (fun e => hPush (eq_of_beq e) _) <|
    branch (fun e => hFilter (eq_of_beq e) _) <| branch (fun e => ?_) rfl
  have hd := hDl (eq_of_beq e)
  split
  · exact hd _
  · refine branch (fun _ => hd _) ?_
    split
    · rfl
    · exact hd _

theorem applyPaths_proj {β} (g : SubUpdate → β) (q : String) {db : Db} {r : SubReq}
    (hq : ∀ p u, p ≠ q → g (pathUpdate db r p u).1 = g u.1) :
    ∀ {paths : List String} {u u' : SubUpdate × String}, applyPaths db r paths u = .ok u' → q ∉ paths → g u'.1 = g u.1
  | [], _, _, h, _ => by cases h; rfl
  | p :: rest, u, u', h, hn => by
    rw [applyPaths_cons] at h
    split at h
    · cases h
    · exact (applyPaths_proj g q hq h (mt (List.mem_cons_of_mem p) hn)).trans
        (hq p u fun e => hn (e ▸ List.mem_cons_self))

/-- **C17 (an update changes only the fields named in its mask)**: if the mask does not contain a
    path, the pending update computed from the mask does not set that path's fields — hence
    (`C17_apply_frame`) the stored row keeps them, for every mask, every request and every state. -/
theorem C17_mask_local (db : Db) (r : SubReq) : ∀ (paths : List String) (u u' : SubUpdate × String),
    applyPaths db r paths u = .ok u' →
    ("labels" ∉ paths → u'.1.labels = u.1.labels) ∧
    ("expiration_policy" ∉ paths → u'.1.ttl = u.1.ttl) ∧
    ("message_retention_duration" ∉ paths → u'.1.messageTtl = u.1.messageTtl) ∧
    ("enable_message_ordering" ∉ paths → u'.1.ordered = u.1.ordered) ∧
    ("retry_policy" ∉ paths → u'.1.minBackoff = u.1.minBackoff ∧ u'.1.maxBackoff = u.1.maxBackoff) ∧
    ("push_config" ∉ paths → u'.1.push = u.1.push) ∧
    ("filter" ∉ paths → u'.1.filter = u.1.filter) ∧
    ("dead_letter_policy" ∉ paths → u'.1.dl = u.1.dl) := by
  intro paths u u' h
  exact ⟨
    applyPaths_proj (·.labels) "labels" (fun p u hne => pathUpdate_proj _ db r p u (hLabels := (absurd · hne))) h,
    applyPaths_proj (·.ttl) "expiration_policy" (fun p u hne => pathUpdate_proj _ db r p u (hTtl := (absurd · hne))) h,
    applyPaths_proj (·.messageTtl) "message_retention_duration"
      (fun p u hne => pathUpdate_proj _ db r p u (hMessageTtl := (absurd · hne))) h,
    applyPaths_proj (·.ordered) "enable_message_ordering"
      (fun p u hne => pathUpdate_proj _ db r p u (hOrdered := (absurd · hne))) h,
    fun hn => ⟨
      applyPaths_proj (·.minBackoff) "retry_policy" (fun p u hne => pathUpdate_proj _ db r p u (hRetry := (absurd · hne))) h hn,
      applyPaths_proj (·.maxBackoff) "retry_policy" (fun p u hne => pathUpdate_proj _ db r p u (hRetry := (absurd · hne))) h hn⟩,
    applyPaths_proj (·.push) "push_config" (fun p u hne => pathUpdate_proj _ db r p u (hPush := (absurd · hne))) h,
    applyPaths_proj (·.filter) "filter" (fun p u hne => pathUpdate_proj _ db r p u (hFilter := (absurd · hne))) h,
    applyPaths_proj (·.dl) "dead_letter_policy" (fun p u hne => pathUpdate_proj _ db r p u (hDl := (absurd · hne))) h⟩

/-- **C17 (rejected updates change nothing)**: see `C16_error_no_change`. -/
theorem C17_update_rejects (db : Db) (now : Time) (r : Option SubReq) (paths : List String)
    (h : (hUpdateSub db now r paths).2.status ≠ .ok) : (hUpdateSub db now r paths).1 = db :=
  C16_error_no_change db now (.updateSub r paths) h

/-! ### PostgreSQL interval strings (`ParsePostgreSQLInterval`) -/

def nsPerSecond : Int := 1000000000

/-- value of `[y year(s) ][mon mon(s) ][d day(s) ]hh:mm:ss[.frac]` with non-negative components;
    `frac` is the list of fraction digits (at most 9) -/
def pgInterval (y mon d h m s : Nat) (frac : List Nat) : Option Int :=
  if 9 < frac.length then none
  else
    let fracVal : Nat := frac.foldl (fun acc x => acc * 10 + x) 0
    some ((y : Int) * (365 * 24 * 3600 * nsPerSecond) + (mon : Int) * (30 * 24 * 3600 * nsPerSecond) +
      (d : Int) * (24 * 3600 * nsPerSecond) + (h : Int) * (3600 * nsPerSecond) + (m : Int) * (60 * nsPerSecond) +
      (s : Int) * nsPerSecond + (fracVal : Int) * (nsPerSecond / (10 ^ frac.length : Nat)))

/-- more than nanosecond resolution is rejected, anything else is accepted -/
theorem C17_pg_interval_resolution (y mon d h m s : Nat) (frac : List Nat) :
    (pgInterval y mon d h m s frac).isSome = true ↔ frac.length ≤ 9 := by
  unfold pgInterval
  split <;> simp <;> omega

example : pgInterval 1 2 3 4 5 6 [7, 8, 9] = some ((365 + 60 + 3) * 24 * 3600 * 1000000000 + (4 * 3600 + 5 * 60 + 6) * 1000000000 + 789000000) := by
  decide

end Mmmbbb.Api

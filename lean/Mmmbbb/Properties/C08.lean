/-
C08 — Filter syntax: accept exactly the language, never crash, print/parse round-trips.

"A filter string is accepted when creating or updating a subscription iff it is a sentence of the
documented filter grammar; any other string is rejected with an error (never a crash or hang) and
is never stored.  Rendering a parsed filter back to text yields a string that parses to an
equivalent filter."

Model: `Model/FilterSyntax.lean` (lexer, recursive-descent parser mirroring the participle struct
tags, printer mirroring `AsFilter`).  The parser is a total Lean function — termination on every
input is part of its definition being accepted by Lean (structural recursion on the fuel, which is
set from the token count).  Proved below: the round trip at token level, and that `createSub` stores
no filter that does not parse.  That the accepted language is the documented grammar, and everything
about `lex` and `render`, is left to the correspondence runs.
-/
import Mmmbbb.Proofs.FilterRoundTrip
import Mmmbbb.Model.Actions
namespace Mmmbbb.Filter

/-- **C08 (round trip)**: printing any filter AST and parsing the printed tokens gives the same AST
    back — for every AST, no size bound. -/
theorem C08_roundtrip_tokens (c : Cond) : parseTokens (printCond c) = some c := by
  have hsz := Cond.size_le c
  have := parseCond_print c (2 * (printCond c).length + 2) [] (by omega) ⟨trivial, trivial⟩
  simp only [List.append_nil] at this
  simp [parseTokens, this]

/-- the printer never emits an empty identifier: a name is printed as an `ident` token only if it
    is a non-empty identifier (the defect fixed in `formatAttrName`: the empty name used to be
    printed as an empty identifier, which no lexer can produce) -/
theorem C08_name_tokens_lexable (n : String) :
    (∃ s, nameTok n = .ident s ∧ isIdentName s = true) ∨ nameTok n = .str n := by
  unfold nameTok
  by_cases h : isIdentName n = true
  · left; exact ⟨n, by simp [h], h⟩
  · right; simp [h]

theorem C08_empty_name_quoted : nameTok "" = .str "" := by
  simp [nameTok, isIdentName]

/-- **C08 (deterministic, total)**: `parse` yields exactly one verdict for every string. -/
theorem C08_parse_total (s : String) :
    (∃ c, parse s = .ok c) ∨ parse s = .reject ∨ parse s = .unsupported := by
  cases h : parse s with
  | ok c => exact Or.inl ⟨c, rfl⟩
  | reject => exact Or.inr (Or.inl rfl)
  | unsupported => exact Or.inr (Or.inr rfl)

end Mmmbbb.Filter

namespace Mmmbbb
open Filter

theorem filterOk_iff (f : String) : filterOk f = true ↔ f = "" ∨ ∃ c, parse f = .ok c := by
  unfold filterOk
  cases parse f <;> simp

/-- **C08 (never stored)**: `CreateSubscription` with a non-empty filter that does not parse fails
    with an error — the transaction result is an error, so nothing is stored. -/
theorem C08_create_rejects (db : Db) (now : Time) (p : CreateSubParams) (i : Id)
    (hne : p.filter ≠ "") (hbad : ∀ c, parse p.filter ≠ .ok c) :
    ∃ e, createSub db now p i = .error e := by
  cases h : createSub db now p i with
  | error e => exact ⟨e, rfl⟩
  | ok o =>
    obtain ⟨t, dlId, _, hf, _⟩ := createSub_ok h
    rcases (filterOk_iff _).mp hf with h0 | ⟨c, hc⟩
    · exact absurd h0 hne
    · exact absurd hc (hbad c)

/-- …and whatever `CreateSubscription` does store as a filter parses. -/
theorem C08_created_filter_parses (db : Db) (now : Time) (p : CreateSubParams) (i : Id) (o : TxOut Id)
    (h : createSub db now p i = .ok o) :
    ∀ s ∈ o.db.subs, s ∉ db.subs → ∀ f, s.filter = some f → ∃ c, parse f = .ok c := by
  obtain ⟨t, dlId, _, hf, _, _, hdb, _⟩ := createSub_ok h
  intro s hs hnot f hsf
  rw [hdb] at hs
  simp only [List.mem_append, List.mem_singleton] at hs
  rcases hs with hs | hs
  · exact absurd hs hnot
  · subst hs
    obtain ⟨hne, e⟩ := Option.ite_none_left_eq_some.mp hsf
    obtain rfl := Option.some.inj e
    exact ((filterOk_iff _).mp hf).resolve_left (by simpa using hne)

end Mmmbbb

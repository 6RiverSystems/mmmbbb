/-
C04 — Redelivery lease: exclusive until the backoff deadline, then redelivered.

"After a message is delivered as attempt n it is not handed out again — to the same or any
concurrent puller, barring an explicit nack, zero deadline or seek — before the retry deadline
min(maxBackoff, minBackoff × 1.1ⁿ) (defaults 10 s / 10 min, plus less than 1 s of jitter), and it
is handed out again once that deadline has passed; the reported delivery attempt is exactly
n = 1, 2, 3, … .  ModifyAckDeadline with a positive value can only postpone the deadline, with zero
makes the message immediately redeliverable, and a nack reschedules it by the backoff."

Concurrency: a pull's delivery transaction is one atomic `step` of the model (SQLite immediate
transactions / PostgreSQL row locks provide that granularity), so the interleavings of any number of
concurrent pullers are exactly the operation lists quantified over below.

Float arithmetic: the implementation computes the delay in float64; the model uses exact integer
arithmetic and grants the implementation `Backoff.tol` (2⁻⁴⁰ relative + 2 ns), checked on every
pull of the correspondence run (`delayOk`).
-/
import Mmmbbb.Proofs.StepFrame
namespace Mmmbbb
open Backoff

/-- the documented defaults: 10 s, 10 min, factor 1.1 — over the constants extracted from the source -/
theorem C04_defaults :
    Extracted.defaultMinDelay = 10 * 1000000000 ∧ Extracted.defaultMaxDelay = 600 * 1000000000 ∧
    Extracted.retryBackoffNum = 11 ∧ Extracted.retryBackoffDen = 10 := ⟨rfl, rfl, rfl, rfl⟩

theorem effMin_pos (m : Option Int) : 0 < effMin m := by
  unfold effMin
  split
  · split
    · assumption
    · decide
  · decide

theorem effMax_pos (m : Option Int) : 0 < effMax m := by
  unfold effMax
  split
  · split
    · assumption
    · decide
  · decide

theorem ediv_le_mul_ediv_mul {x d a b : Int} (hx : 0 ≤ x) (hd : 0 < d) (hb : 0 < b) (hab : b ≤ a) :
    x / d ≤ x * a / (d * b) := by
  apply Int.le_ediv_of_mul_le (Int.mul_pos hd hb)
  rw [← Int.mul_assoc]
  exact Int.le_trans (Int.mul_le_mul_of_nonneg_right (Int.ediv_mul_le x (Int.ne_of_gt hd)) (Int.le_of_lt hb))
    (Int.mul_le_mul_of_nonneg_left hab hx)

theorem raw_zero (mn : Int) : raw mn 0 = mn := by simp [raw]

theorem raw_mono_succ (mn : Int) (hmn : 0 ≤ mn) (n : Nat) : raw mn n ≤ raw mn (n + 1) := by
  unfold raw
  rw [Nat.pow_succ, Nat.pow_succ, Int.natCast_mul, Int.natCast_mul, ← Int.mul_assoc]
  exact ediv_le_mul_ediv_mul (Int.mul_nonneg hmn (Int.natCast_nonneg _)) (Int.ofNat_lt.mpr (Nat.pow_pos (by decide)))
    (by decide) (by decide)

theorem raw_mono (mn : Int) (hmn : 0 ≤ mn) {n m : Nat} (h : n ≤ m) : raw mn n ≤ raw mn m := by
  induction h with
  | refl => exact Int.le_refl _
  | step _ ih => exact Int.le_trans ih (raw_mono_succ mn hmn _)

theorem raw_ge_min (mn : Int) (hmn : 0 ≤ mn) (n : Nat) : mn ≤ raw mn n := by
  have := raw_mono mn hmn (Nat.zero_le n)
  rwa [raw_zero] at this

/-- **C04 (bounds)**: the nominal retry delay lies between the effective minimum and maximum
    back-off whenever min ≤ max (always the case for the defaults) -/
theorem C04_nominal_bounds (minB maxB : Option Int) (n : Nat) (h : effMin minB ≤ effMax maxB) :
    effMin minB ≤ nominal minB maxB n ∧ nominal minB maxB n ≤ effMax maxB := by
  unfold nominal
  simp only
  have := raw_ge_min (effMin minB) (Int.le_of_lt (effMin_pos minB)) n
  split
  · exact ⟨h, Int.le_refl _⟩
  · exact ⟨this, by omega⟩

/-- **C04 (monotone)**: a later attempt never waits less -/
theorem C04_nominal_mono (minB maxB : Option Int) {n m : Nat} (h : n ≤ m) :
    nominal minB maxB n ≤ nominal minB maxB m := by
  unfold nominal
  simp only
  have := raw_mono (effMin minB) (Int.le_of_lt (effMin_pos minB)) h
  split <;> split <;> omega

/-- **C04 (saturation)**: once the uncapped delay exceeds the maximum, the delay is the maximum — for
    this and (by monotonicity) every later attempt -/
theorem C04_nominal_saturates (minB maxB : Option Int) {n m : Nat} (h : n ≤ m)
    (hs : effMax maxB < raw (effMin minB) n) : nominal minB maxB m = effMax maxB := by
  have := raw_mono (effMin minB) (Int.le_of_lt (effMin_pos minB)) h
  unfold nominal
  simp only
  split
  · rfl
  · omega

/-- the first attempts with the default policy: 11 s, 12.1 s, 13.31 s … and the cap at 10 min -/
example : nominal none none 1 = 11000000000 ∧ nominal none none 2 = 12100000000 ∧
    nominal none none 3 = 13310000000 ∧ nominal none none 60 = 600000000000 := by decide

/-- a delay accepted by `delayOk` is at least the nominal delay (minus the float tolerance) and less
    than nominal + 1 s of jitter (plus tolerance) -/
theorem delayOk_bounds {nom δ : Int} (h : delayOk nom δ = true) :
    nom - tol nom ≤ δ ∧ δ < nom + tol nom + oneSecond := by
  unfold delayOk at h
  simp only [Bool.and_eq_true, decide_eq_true_eq] at h
  refine ⟨h.1, ?_⟩
  have h2 := h.2
  split at h2
  · simp only [decide_eq_true_eq] at h2
    unfold oneSecond at *
    omega
  · simpa using h2

/-- **C04 (lease set, attempt numbers)**: a pull that hands out `(i, n)` found row `i` with
    `attempts = n - 1`, not completed, due — and leaves it with `attempts = n`, `lastAttemptedAt =
    now` and `attemptAt = now + δ` where `δ` lies in the back-off window of attempt `n`:
    `nominal n - tol ≤ δ < nominal n + tol + 1 s`. -/
theorem C04_lease_set (st : St) (s : String) (mx mb : Nat) (strict : Bool) (wait : Int) (obs : PullObs)
    (i : Id) (n : Nat) (hmem : (i, n) ∈ (step st (.pull s mx mb strict wait obs)).2.delivered) :
    ∃ sub c δ, st.db.liveSubByName s = some sub ∧ st.db.delById i = some c ∧ n = c.attempts + 1 ∧
      c.completedAt = none ∧ c.attemptAt ≤ st.now ∧
      nominal sub.minBackoff sub.maxBackoff n - tol (nominal sub.minBackoff sub.maxBackoff n) ≤ δ ∧
      δ < nominal sub.minBackoff sub.maxBackoff n + tol (nominal sub.minBackoff sub.maxBackoff n) + oneSecond ∧
      (step st (.pull s mx mb strict wait obs)).1.db.delById i =
        some { c with attempts := n, lastAttemptedAt := some st.now, attemptAt := st.now + δ } := by
  obtain ⟨sub, c, δ, hsub, hc, helig, hn, hok, hpost⟩ := step_pull_delivered hmem
  obtain ⟨_, hopen, _, hdue, _⟩ := Db.eligible_iff.mp helig
  exact ⟨sub, c, δ, hsub, hc, hn, hopen, hdue, (delayOk_bounds hok).1, (delayOk_bounds hok).2, by rw [hpost, hn]; rfl⟩

/-- **C04 (exclusive until the deadline)**: let row `i` be leased until `T` (not due before `T`, or
    completed) — which is what `C04_lease_set` establishes with `T = now + δ`.  Then along every
    continuation, of any length, whose operations run before `T` and are not a nack, a non-positive
    deadline modification, a seek or a delivery prune job — with any number of pulls by any number
    of pullers in any order — no pull response contains `i`. -/
theorem C04_exclusive (ops : List Op) : ∀ (st : St) (i : Id) (T : Time) (d : Delivery),
    (∀ op ∈ ops, op.keepsLease = true) →
    (∀ p ∈ trace st ops, p.1.now < T) →
    st.db.delById i = some d → held T d →
    ∀ p ∈ trace st ops, ∀ n, (i, n) ∉ p.2.delivered := by
  induction ops with
  | nil => intro st i T d _ _ _ _ p hp; cases hp
  | cons op r ih =>
    intro st i T d hops htime hd hheld p hp n
    have hnow : st.now < T := htime (st, (step st op).2) (by simp [trace])
    simp only [trace, List.mem_cons] at hp
    rcases hp with rfl | hp
    · -- this step: a delivered row is due and not completed, but `i` is held until T > now
      intro hmem
      obtain ⟨s, mx, mb, strict, wait, obs, rfl⟩ := step_delivered_is_pull hmem
      obtain ⟨sub, c, δ, _, hc, _, hcomp, hdue, _⟩ := C04_lease_set st s mx mb strict wait obs i n hmem
      obtain rfl := Option.some.inj (hd.symm.trans hc)
      exact not_held_of_due hnow hcomp hdue hheld
    · obtain ⟨d', hd', r'⟩ := step_held st op T hnow (hops op List.mem_cons_self) i d hd
      exact ih (step st op).1 i T d' (fun o ho => hops o (List.mem_cons_of_mem _ ho))
        (fun q hq => htime q (by simp only [trace, List.mem_cons]; exact Or.inr hq)) hd' (r'.2 hheld) p hp n

/-- **C04 (positive ModifyAckDeadline only postpones)**: every row's deadline after `delay ids Δ`,
    `Δ > 0`, is at least what it was, and the rows it addresses are not due before `now + Δ`. -/
theorem C04_modack_monotone (db : Db) (now : Time) (ids : List Id) (Δ : Int) (hΔ : 0 < Δ) (o : TxOut Nat)
    (h : delay db now ids Δ = .ok o) (i : Id) (d : Delivery) (hd : db.delById i = some d) :
    ∃ d', o.db.delById i = some d' ∧ d.attemptAt ≤ d'.attemptAt ∧
      (ids.contains i = true → d.completedAt = none → now + Δ ≤ d'.attemptAt) := by
  obtain ⟨p, hp, rfl⟩ := delay_ok h
  refine ⟨_, delById_updateWhere hd, ?_⟩
  split
  · rename_i hpd
    exact ⟨Int.le_of_lt (((hp d).mp hpd).2.2.resolve_left (Int.not_le.mpr hΔ)), fun _ _ => Int.le_refl _⟩
  · rename_i hpd
    exact ⟨Int.le_refl _, fun hc hn => Int.not_lt.mp fun hlt =>
      hpd ((hp d).mpr ⟨by rw [(delById_mem hd).2]; exact hc, hn, Or.inr hlt⟩)⟩

/-- **C04 (zero deadline)**: `delay ids Δ` with `Δ ≤ 0` makes every addressed outstanding row due at
    once (`attemptAt = now + Δ ≤ now`) and wakes its subscription. -/
theorem C04_modack_zero (db : Db) (now : Time) (ids : List Id) (Δ : Int) (hΔ : Δ ≤ 0) (o : TxOut Nat)
    (h : delay db now ids Δ = .ok o) (i : Id) (d : Delivery) (hd : db.delById i = some d)
    (hi : ids.contains i = true) (hn : d.completedAt = none) :
    o.db.delById i = some { d with attemptAt := now + Δ } ∧ d.subId ∈ o.wakes := by
  obtain ⟨p, hp, rfl⟩ := delay_ok h
  have hpd : p d = true := (hp d).mpr ⟨by rw [(delById_mem hd).2]; exact hi, hn, Or.inl hΔ⟩
  refine ⟨?_, ?_⟩
  · rw [delById_updateWhere hd, if_pos hpd]
  · simp only [hΔ, if_true]
    exact mem_dedup_map_filter (delById_mem hd).1 hpd

/-- the nominal back-off is positive, so a lease never ends more than the float tolerance before it began -/
theorem nominal_pos (minB maxB : Option Int) (n : Nat) : 0 < nominal minB maxB n := by
  unfold nominal
  simp only
  split
  · exact effMax_pos maxB
  · have := raw_ge_min (effMin minB) (Int.le_of_lt (effMin_pos minB)) n
    have := effMin_pos minB
    omega

theorem sub_tol_ge {x : Int} (hx : 0 ≤ x) : -2 ≤ x - tol x := by
  unfold tol
  have := Int.ediv_le_self 1099511627776 hx
  omega

/-- **C04 (delivered again after the deadline)**: the row a pull handed out as attempt `n` is, in the
    state the pull leaves, deliverable again on that subscription at every instant from its retry
    deadline `now + δ` on — for as long as it is neither acknowledged nor past its retention, and (on
    an ordered subscription) not blocked by its predecessor: nothing else is needed for the next
    pull's query to select it, with attempt number `n + 1`. -/
theorem C04_redelivered (st : St) (s : String) (mx mb : Nat) (strict : Bool) (wait : Int) (obs : PullObs)
    (i : Id) (n : Nat) (hmem : (i, n) ∈ (step st (.pull s mx mb strict wait obs)).2.delivered) :
    ∃ sub c', st.db.liveSubByName s = some sub ∧
      (step st (.pull s mx mb strict wait obs)).1.db.delById i = some c' ∧ c'.attempts = n ∧ c'.subId = sub.id ∧
      c'.completedAt = none ∧ st.now ≤ c'.attemptAt + oneSecond ∧
      ∀ t, c'.attemptAt ≤ t → t < c'.expiresAt →
        (sub.ordered = false ∨ (step st (.pull s mx mb strict wait obs)).1.db.predDone t c' = true) →
        (step st (.pull s mx mb strict wait obs)).1.db.eligible sub t c' = true := by
  obtain ⟨sub, c, δ, hs, _, helig, hn, hok, hafter⟩ := step_pull_delivered hmem
  obtain ⟨hsub, hcomp, _⟩ := Db.eligible_iff.mp helig
  refine ⟨sub, _, hs, hafter, hn.symm, hsub, hcomp, ?_, ?_⟩
  · -- the deadline is not before the delivery (back-off ≥ 0 up to the jitter tolerance)
    show st.now ≤ st.now + δ + oneSecond
    have hlo := (delayOk_bounds hok).1
    have := sub_tol_ge (Int.le_of_lt (nominal_pos sub.minBackoff sub.maxBackoff n))
    unfold oneSecond
    unfold Time at *
    omega
  · intro t h1 h2 h3
    exact Db.eligible_iff.mpr ⟨hsub, hcomp, h2, h1, fun ho => h3.resolve_left (by rw [ho]; nofun)⟩

/-- **C04 (the pull is one step)**: `C04_exclusive` speaks about concurrent pullers because the model's
    `pull` selects the candidates and records the attempt (the lease) in one step.  The source has
    that shape: every transaction of `GetSubscriptionMessages.execute` that selects candidates also
    applies the results (regenerated fact; two real pulls interleaved at every transaction boundary
    are the run-time side of the same tie). -/
theorem C04_pull_is_one_transaction :
    (∀ x ∈ Extracted.pullTxShape, x = "with-apply") ∧ Extracted.pullTxShape ≠ [] :=
  ⟨by decide, by decide⟩

/-! ### a waiting pull and the retry deadline

A pull that found nothing sleeps until a notification or until the time `nextAttempt` computes: the
attempt time of the first row when the outstanding rows are sorted by attempt time (or that row's end of
retention, if earlier).  Sorted by anything else, the timer may point past a row that is due sooner. -/

/-- the first row of `ORDER BY attempt_at ASC`: a row none of the others is due before -/
def firstDue : List Delivery → Option Delivery
  | [] => none
  | d :: r =>
    match firstDue r with
    | none => some d
    | some e => if d.attemptAt ≤ e.attemptAt then some d else some e

theorem firstDue_eq_none : ∀ {l : List Delivery}, firstDue l = none → l = []
  | [], _ => rfl
  | x :: r, h => by
    simp only [firstDue] at h
    split at h
    · cases h
    · split at h <;> cases h

theorem firstDue_le : ∀ {l : List Delivery} {f : Delivery}, firstDue l = some f → ∀ d ∈ l, f.attemptAt ≤ d.attemptAt
  | [], _, h => nomatch h
  | x :: r, f, h => by
    simp only [firstDue] at h
    split at h
    · -- the tail has no first row: it is empty
      rename_i hr
      obtain rfl := Option.some.inj h
      rw [firstDue_eq_none hr]
      exact List.forall_mem_cons.mpr ⟨Int.le_refl _, fun _ hd => nomatch hd⟩
    · -- `f` is the earlier of `x` and the first row `e` of the tail
      rename_i e hr
      have ih := firstDue_le hr
      split at h <;> obtain rfl := Option.some.inj h
      · rename_i hle
        exact List.forall_mem_cons.mpr ⟨Int.le_refl _, fun d hd => Int.le_trans hle (ih d hd)⟩
      · rename_i hlt
        exact List.forall_mem_cons.mpr ⟨Int.le_of_lt (Int.not_le.mp hlt), ih⟩

/-- the wake-up time of a waiting pull -/
def wakeTime (l : List Delivery) : Option Time :=
  (firstDue l).map fun f => if f.expiresAt < f.attemptAt then f.expiresAt else f.attemptAt

/-- **C04 (a waiting pull is woken at the retry deadline)**: the timer of a waiting pull does not point
    past the attempt time of any outstanding row — so once a retry deadline has passed the waiter has
    been woken and its query hands the message out; and the source sorts by attempt time (regenerated
    fact). -/
theorem C04_waiter_wakes_by_deadline (l : List Delivery) (t : Time) (h : wakeTime l = some t) :
    (∀ d ∈ l, t ≤ d.attemptAt) ∧ Extracted.nextAttemptOrders.head? = some "Asc:AttemptAt" := by
  refine ⟨?_, rfl⟩
  obtain ⟨f, hf, rfl⟩ := Option.map_eq_some_iff.mp h
  intro d hd
  have := firstDue_le hf d hd
  split
  · rename_i hlt
    exact Int.le_trans (Int.le_of_lt hlt) this
  · exact this

end Mmmbbb

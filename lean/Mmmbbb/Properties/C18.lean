/-
C18 — An injected fault fires exactly its count, only on matching calls.

"A fault injected for an operation with a parameter set and a count N makes exactly
min(N, number of matching calls) calls fail, however many callers race; a call matches only if the
operation is equal and every injected parameter equals the call's parameter.  Calls that do not
match are never failed, and an exhausted fault disappears from the listing."

`Faults.Sys` interleaves any number of concurrent `Check` callers at the granularity the code
synchronises on: the match (under the read lock) and the atomic decrement are separate steps, and
a negative result restarts the call.  All theorems hold for every schedule.
-/
import Mmmbbb.Model.Faults
import Mmmbbb.Extracted
namespace Mmmbbb.Faults

/-- the shape of `Set.Check` the model encodes, as found in the source by the extractor:
    match, atomic add of -1, retry when the result is negative, otherwise fire -/
theorem C18_check_shape :
    Extracted.faultsCheckShape = ["match", "atomic-add:-1", "prune-if<=0", "retry-if<0", "fire"] ∧
    Extracted.faultsMatchShape = ["if:atomic.LoadInt64()<=?", "if:d.Operation!=op", "range:d.Parameters", "return:true"] :=
  ⟨rfl, rfl⟩

/-- the model's `match` step reads the description list as one atomic step; in the source that is the
    read lock of `Set.match`, held (deferred unlock) over the whole walk — `prune` compacts the same
    backing array under the write lock, so a walk outside the lock can pass a live description by -/
theorem C18_match_walks_under_lock :
    Extracted.faultsSetMatchLock = ["RLock", "defer:RUnlock", "assign", "range", "return"] :=
  rfl

def cnt (ds : List Desc) (i : Nat) : Int := match ds[i]? with | some d => d.count | none => 0
def pos (x : Int) : Int := if 0 < x then x else 0
def fires (cs : List Caller) (i : Nat) : Nat := cs.countP (fun c => c.phase == Phase.fired i)

theorem pos_nonneg (x : Int) : 0 ≤ pos x := by unfold pos; split <;> omega
theorem pos_of_nonneg {x : Int} (h : 0 ≤ x) : pos x = x := by unfold pos; split <;> omega
theorem pos_of_nonpos {x : Int} (h : x ≤ 0) : pos x = 0 := by unfold pos; split <;> omega

structure FInv (ds0 : List Desc) (s : Sys) : Prop where
  same : ∀ (i : Nat) (d0 : Desc), ds0[i]? = some d0 →
          ∃ d : Desc, s.descs[i]? = some d ∧ d.op = d0.op ∧ d.params = d0.params
  none : ∀ i : Nat, ds0[i]? = none → s.descs[i]? = none
  /-- the balance: the calls failed through `i` and the positive part of what is left of its counter
      make up the positive part of the injected count -/
  bal : ∀ (i : Nat) (d0 : Desc), ds0[i]? = some d0 → (fires s.callers i : Int) + pos (cnt s.descs i) = pos d0.count
  fit : ∀ (k : Nat) (c : Caller) (i : Nat), s.callers[k]? = some c →
          (c.phase = Phase.matched i ∨ c.phase = Phase.fired i) →
          ∃ d0 : Desc, ds0[i]? = some d0 ∧ d0.fits c.op c.params = true

theorem decr_get (ds : List Desc) (i j : Nat) :
    (decr ds i)[j]? = (ds[j]?).map (fun (d : Desc) => if j == i then { d with count := d.count - 1 } else d) := by
  unfold decr
  rw [List.getElem?_mapIdx]

theorem decr_keeps (ds : List Desc) (i j : Nat) :
    (ds[j]? = none → (decr ds i)[j]? = none) ∧
    ∀ d, ds[j]? = some d → ∃ d', (decr ds i)[j]? = some d' ∧ d'.op = d.op ∧ d'.params = d.params ∧ d'.count ≤ d.count := by
  refine ⟨fun h => by rw [decr_get, h]; rfl, fun d h => ⟨_, by rw [decr_get, h]; rfl, ?_⟩⟩
  split
  · exact ⟨rfl, rfl, by show d.count - 1 ≤ d.count; omega⟩
  · exact ⟨rfl, rfl, Int.le_refl _⟩

theorem cnt_of_get {ds : List Desc} {i : Nat} {d : Desc} (h : ds[i]? = some d) : cnt ds i = d.count := by
  unfold cnt; rw [h]

theorem cnt_decr_self {ds : List Desc} {i : Nat} {d : Desc} (h : ds[i]? = some d) : cnt (decr ds i) i = d.count - 1 := by
  unfold cnt
  rw [decr_get, h]
  simp

theorem cnt_decr_ne (ds : List Desc) {i i0 : Nat} (h : i ≠ i0) : cnt (decr ds i0) i = cnt ds i := by
  unfold cnt; rw [decr_get]
  cases ds[i]? <;> simp [h]

theorem Desc.matches_iff {d : Desc} {op : String} {params : Params} :
    d.matches op params = true ↔ 0 < d.count ∧ d.fits op params = true := by
  simp [Desc.matches]

theorem Desc.fits_iff {d : Desc} {op : String} {params : Params} :
    d.fits op params = true ↔ d.op = op ∧ ∀ kv ∈ d.params, Params.get? params kv.1 = some kv.2 := by
  simp [Desc.fits]

theorem Desc.fits_congr {d d' : Desc} (ho : d.op = d'.op) (hp : d.params = d'.params) (op : String) (params : Params) :
    d.fits op params = d'.fits op params := by
  unfold Desc.fits; rw [ho, hp]

theorem findMatch_spec {ds : List Desc} {op : String} {params : Params} {i : Nat}
    (h : findMatch ds op params = some i) : ∃ d, ds[i]? = some d ∧ d.matches op params = true := by
  unfold findMatch at h
  obtain ⟨hlt, hp, _⟩ := List.findIdx?_eq_some_iff_getElem.mp h
  exact ⟨ds[i], by simp [hlt], hp⟩

theorem set_of_getElem? {α} {l : List α} {k : Nat} {a : α} (h : l[k]? = some a) : l.set k a = l := by
  obtain ⟨hlt, rfl⟩ := List.getElem?_eq_some_iff.mp h
  exact List.set_getElem_self hlt

theorem fires_set {cs : List Caller} {k : Nat} {c : Caller} (hk : cs[k]? = some c) (ph' : Phase) (i : Nat) :
    fires (cs.set k { c with phase := ph' }) i + (if c.phase = .fired i then 1 else 0) =
      fires cs i + (if ph' = .fired i then 1 else 0) := by
  obtain ⟨hlt, rfl⟩ := List.getElem?_eq_some_iff.mp hk
  -- for `omega`: `countP_set` subtracts in `Nat`, and the entry subtracted is counted
  have := List.boole_getElem_le_countP (p := fun c => c.phase == Phase.fired i) hlt
  unfold fires
  rw [List.countP_set hlt]
  simp only [beq_iff_eq] at this ⊢
  omega

/-! ### the moves of a caller

`stepCaller` as a relation: the five things a call that has not returned can do.  Every invariant
below is kept move by move. -/

inductive Move (ds : List Desc) (c : Caller) : List Desc → Phase → Prop
  | found {i d} : c.phase = .start → ds[i]? = some d → d.matches c.op c.params = true → Move ds c ds (.matched i)
  | notFound : c.phase = .start → (∀ d ∈ ds, d.matches c.op c.params = false) → Move ds c ds .passed
  /-- (never taken from a reachable state: a matched index names a description) -/
  | gone {i} : c.phase = .matched i → ds[i]? = none → Move ds c ds .passed
  | retry {i d} : c.phase = .matched i → ds[i]? = some d → d.count ≤ 0 → Move ds c (decr ds i) .start
  | fire {i d} : c.phase = .matched i → ds[i]? = some d → 0 < d.count → Move ds c (decr ds i) (.fired i)

theorem stepCaller_spec (ds : List Desc) (c : Caller) :
    stepCaller ds c = (ds, c) ∨ ∃ ds' ph', Move ds c ds' ph' ∧ stepCaller ds c = (ds', { c with phase := ph' }) := by
  unfold stepCaller
  cases hph : c.phase with
  | start =>
    simp only
    cases hm : findMatch ds c.op c.params with
    | none => exact .inr ⟨_, _, .notFound hph (fun d hd => by simpa using List.findIdx?_eq_none_iff.mp hm d hd), rfl⟩
    | some i =>
      obtain ⟨d, hd, hmatch⟩ := findMatch_spec hm
      exact .inr ⟨_, _, .found hph hd hmatch, rfl⟩
  | matched i =>
    simp only
    cases hd : ds[i]? with
    | none => exact .inr ⟨_, _, .gone hph hd, rfl⟩
    | some d =>
      simp only
      split
      · exact .inr ⟨_, _, .retry hph hd (by omega), rfl⟩
      · exact .inr ⟨_, _, .fire hph hd (by omega), rfl⟩
  | fired i => exact .inl rfl
  | passed => exact .inl rfl

theorem Sys.step_spec (s : Sys) (k : Nat) :
    s.step k = s ∨ ∃ c ds' ph', s.callers[k]? = some c ∧ Move s.descs c ds' ph' ∧
      s.step k = { descs := ds', callers := s.callers.set k { c with phase := ph' } } := by
  unfold Sys.step
  cases hk : s.callers[k]? with
  | none => exact .inl rfl
  | some c =>
    simp only
    rcases stepCaller_spec s.descs c with e | ⟨ds', ph', m, e⟩
    · rw [e, set_of_getElem? hk]; exact .inl rfl
    · rw [e]; exact .inr ⟨c, ds', ph', rfl, m, rfl⟩

theorem Sys.run_ind {P : Sys → Prop}
    (hmove : ∀ {s : Sys} {k : Nat} {c : Caller} {ds' : List Desc} {ph' : Phase}, P s → s.callers[k]? = some c →
      Move s.descs c ds' ph' → P { descs := ds', callers := s.callers.set k { c with phase := ph' } })
    (sched : List Nat) : ∀ s : Sys, P s → P (s.run sched) := by
  induction sched with
  | nil => exact fun s h => h
  | cons k r ih =>
    intro s h
    refine ih _ ?_
    rcases s.step_spec k with e | ⟨c, ds', ph', hk, m, e⟩ <;> rw [e]
    · exact h
    · exact hmove h hk m

section
variable {ds ds' : List Desc} {c : Caller} {ph' : Phase}

theorem Move.descs (m : Move ds c ds' ph') (j : Nat) :
    (ds[j]? = none → ds'[j]? = none) ∧
    ∀ d, ds[j]? = some d → ∃ d', ds'[j]? = some d' ∧ d'.op = d.op ∧ d'.params = d.params ∧ d'.count ≤ d.count := by
  cases m with
  | found | notFound | gone => exact ⟨id, fun d h => ⟨d, h, rfl, rfl, Int.le_refl _⟩⟩
  | retry | fire => exact decr_keeps ds _ j

theorem Move.cnt_le (m : Move ds c ds' ph') (i : Nat) : cnt ds' i ≤ cnt ds i := by
  unfold cnt
  cases h : ds[i]? with
  | none => rw [(m.descs i).1 h]; exact Int.le_refl _
  | some d =>
    obtain ⟨d', hd', _, _, hc⟩ := (m.descs i).2 d h
    rw [hd']; exact hc

theorem Move.bal (m : Move ds c ds' ph') (i : Nat) :
    ((if ph' = .fired i then 1 else 0 : Nat) : Int) + pos (cnt ds' i) =
      ((if c.phase = .fired i then 1 else 0 : Nat) : Int) + pos (cnt ds i) := by
  cases m with
  | found hph | notFound hph | gone hph => simp [hph]
  | @retry i0 d hph hd hle =>
    by_cases e : i = i0
    · -- the counter was not positive and stays so
      subst e
      rw [cnt_decr_self hd, cnt_of_get hd, pos_of_nonpos hle, pos_of_nonpos (by omega)]
      simp [hph]
    · simp [hph, cnt_decr_ne ds e]
  | @fire i0 d hph hd hpos =>
    by_cases e : i = i0
    · subst e
      rw [cnt_decr_self hd, cnt_of_get hd, pos_of_nonneg (Int.le_of_lt hpos), pos_of_nonneg (by omega)]
      simp [hph]
      omega
    · simp [hph, cnt_decr_ne ds e, Ne.symm e]

theorem Move.fit (m : Move ds c ds' ph') {i : Nat} (h : ph' = .matched i ∨ ph' = .fired i) :
    c.phase = .matched i ∨ ∃ d, ds[i]? = some d ∧ d.fits c.op c.params = true := by
  cases m with
  | found _ hd hm =>
    rcases h with h | h
    · injection h with h
      subst h
      exact .inr ⟨_, hd, (Desc.matches_iff.mp hm).2⟩
    · cases h
  | notFound | gone | retry => rcases h with h | h <;> cases h
  | fire hph =>
    rcases h with h | h
    · cases h
    · injection h with h
      exact .inl (h ▸ hph)

end

theorem FInv.fits_orig {ds0 : List Desc} {s : Sys} (hinv : FInv ds0 s) {i : Nat} {d : Desc} (hd : s.descs[i]? = some d)
    {op : String} {params : Params} (hf : d.fits op params = true) : ∃ d0, ds0[i]? = some d0 ∧ d0.fits op params = true := by
  cases hd0 : ds0[i]? with
  | none => rw [hinv.none i hd0] at hd; cases hd
  | some d0 =>
    obtain ⟨d', hd', ho, hp⟩ := hinv.same i d0 hd0
    obtain rfl := Option.some.inj (hd.symm.trans hd')
    exact ⟨d0, rfl, Desc.fits_congr ho hp op params ▸ hf⟩

theorem inv_init (ds0 : List Desc) (cs : List Caller) (h : ∀ c ∈ cs, c.phase = .start) :
    FInv ds0 { descs := ds0, callers := cs } := by
  refine ⟨fun i d0 hd => ⟨d0, hd, rfl, rfl⟩, fun i hn => hn, ?_, ?_⟩
  · intro i d0 hd
    have : fires cs i = 0 := by
      unfold fires
      apply List.countP_eq_zero.mpr
      intro c hc
      rw [h c hc]; simp
    simp [this, cnt, hd]
  · intro k c i hk hph
    have hc : c ∈ cs := List.mem_of_getElem? hk
    rw [h c hc] at hph
    rcases hph with h1 | h1 <;> cases h1

theorem FInv.move {ds0 : List Desc} {s : Sys} (hinv : FInv ds0 s) {k : Nat} {c : Caller} {ds' : List Desc} {ph' : Phase}
    (hk : s.callers[k]? = some c) (m : Move s.descs c ds' ph') :
    FInv ds0 { descs := ds', callers := s.callers.set k { c with phase := ph' } } := by
  refine ⟨fun i d0 hd0 => ?_, fun i hn => (m.descs i).1 (hinv.none i hn), fun i d0 hd0 => ?_, fun j c2 i hj hp2 => ?_⟩
  · obtain ⟨d, hd, ho, hp⟩ := hinv.same i d0 hd0
    obtain ⟨d', hd', ho', hp', _⟩ := (m.descs i).2 d hd
    exact ⟨d', hd', ho'.trans ho, hp'.trans hp⟩
  · have h1 := fires_set hk ph' i
    have h2 := m.bal i
    have h3 := hinv.bal i d0 hd0
    show (fires (s.callers.set k { c with phase := ph' }) i : Int) + pos (cnt ds' i) = pos d0.count
    omega
  · rcases List.mem_or_eq_of_mem_set (List.mem_of_getElem? hj) with h1 | rfl
    · obtain ⟨j', hj'⟩ := List.mem_iff_getElem?.mp h1
      exact hinv.fit j' c2 i hj' hp2
    · rcases m.fit hp2 with h | ⟨d, hd, hf⟩
      · exact hinv.fit k c i hk (.inl h)
      · exact hinv.fits_orig hd hf

theorem inv_run (ds0 : List Desc) (sched : List Nat) : ∀ (s : Sys), FInv ds0 s → FInv ds0 (s.run sched) :=
  Sys.run_ind (fun h hk m => h.move hk m) sched

theorem inv_step (ds0 : List Desc) (s : Sys) (k : Nat) (hinv : FInv ds0 s) : FInv ds0 (s.step k) :=
  inv_run ds0 [k] s hinv

/-- **C18 (never over)**: for every number of callers, every schedule and every mix of descriptions,
    the number of calls failed through description `i` never exceeds its injected count. -/
theorem C18_never_over (ds0 : List Desc) (cs : List Caller) (hstart : ∀ c ∈ cs, c.phase = .start)
    (sched : List Nat) (i : Nat) (d0 : Desc) (hd : ds0[i]? = some d0) :
    (fires (Sys.run { descs := ds0, callers := cs } sched).callers i : Int) ≤ pos d0.count := by
  have := (inv_run ds0 sched _ (inv_init ds0 cs hstart)).bal i d0 hd
  have h2 := pos_nonneg (cnt (Sys.run { descs := ds0, callers := cs } sched).descs i)
  omega

/-- **C18 (only matching calls fail)**: a call is failed only through a description with the same
    operation all of whose injected parameters equal the call's parameters. -/
theorem C18_only_matching (ds0 : List Desc) (cs : List Caller) (hstart : ∀ c ∈ cs, c.phase = .start)
    (sched : List Nat) (k : Nat) (c : Caller) (i : Nat)
    (hk : (Sys.run { descs := ds0, callers := cs } sched).callers[k]? = some c) (hf : c.phase = .fired i) :
    ∃ d0, ds0[i]? = some d0 ∧ d0.op = c.op ∧ ∀ kv ∈ d0.params, Params.get? c.params kv.1 = some kv.2 := by
  obtain ⟨d0, hd0, hfit⟩ := (inv_run ds0 sched _ (inv_init ds0 cs hstart)).fit k c i hk (Or.inr hf)
  exact ⟨d0, hd0, Desc.fits_iff.mp hfit⟩

/-- every caller of the system is a matching call of the single description -/
def AllFit (d0 : Desc) (cs : List Caller) : Prop := ∀ c ∈ cs, d0.fits c.op c.params = true

/-- what `C18_exact` needs of a run of `M` callers with one description; every move keeps it -/
structure Exact (d0 : Desc) (M : Nat) (s : Sys) : Prop where
  inv : FInv [d0] s
  fit : AllFit d0 s.callers
  len : s.callers.length = M
  /-- a call that returned nil saw the description exhausted -/
  passed : ∀ c ∈ s.callers, c.phase = Phase.passed → cnt s.descs 0 ≤ 0

theorem Exact.move {d0 : Desc} {M : Nat} {s : Sys} (h : Exact d0 M s) {k : Nat} {c : Caller} {ds' : List Desc} {ph' : Phase}
    (hk : s.callers[k]? = some c) (m : Move s.descs c ds' ph') :
    Exact d0 M { descs := ds', callers := s.callers.set k { c with phase := ph' } } := by
  have hc := h.fit c (List.mem_of_getElem? hk)
  refine ⟨h.inv.move hk m, fun c2 hc2 => ?_, by rw [List.length_set]; exact h.len, fun c2 hc2 hp2 => ?_⟩
  · rcases List.mem_or_eq_of_mem_set hc2 with h1 | rfl
    · exact h.fit c2 h1
    · exact hc
  · rcases List.mem_or_eq_of_mem_set hc2 with h1 | rfl
    · exact Int.le_trans (m.cnt_le 0) (h.passed c2 h1 hp2)
    · cases m with
      | notFound _ hnm =>
        -- no description matches although `d` fits: its counter is not positive
        obtain ⟨d, hd, ho, hpr⟩ := h.inv.same 0 d0 rfl
        have hm := hnm d (List.mem_of_getElem? hd)
        have : ¬ 0 < d.count := fun h => by
          rw [Desc.matches_iff.mpr ⟨h, Desc.fits_congr ho hpr .. ▸ hc⟩] at hm
          cases hm
        rw [cnt_of_get hd]; omega
      | gone hph hn =>
        obtain ⟨d1, hd1, _⟩ := h.inv.fit k c _ hk (.inl hph)
        obtain ⟨d2, hd2, _⟩ := h.inv.same _ d1 hd1
        rw [hn] at hd2; cases hd2
      | found | retry | fire => cases hp2

/-- **C18 (exactly min(N, matching calls))**: one description with count `N ≥ 0`, any number `M` of
    concurrent matching callers, any schedule: once every caller has returned, exactly `min N M`
    of them were failed. -/
theorem C18_exact (d0 : Desc) (hN : 0 ≤ d0.count) (cs : List Caller) (hstart : ∀ c ∈ cs, c.phase = .start)
    (hfit : AllFit d0 cs) (sched : List Nat)
    (hq : ∀ c ∈ (Sys.run { descs := [d0], callers := cs } sched).callers, (∃ i, c.phase = .fired i) ∨ c.phase = .passed) :
    (fires (Sys.run { descs := [d0], callers := cs } sched).callers 0 : Int) = min d0.count cs.length := by
  have h : Exact d0 cs.length (Sys.run { descs := [d0], callers := cs } sched) :=
    Sys.run_ind (fun h hk m => h.move hk m) sched _
      ⟨inv_init [d0] cs hstart, hfit, rfl, fun c hc hp => by rw [hstart c hc] at hp; cases hp⟩
  generalize Sys.run { descs := [d0], callers := cs } sched = s at *
  have hbal := h.inv.bal 0 d0 rfl
  rw [pos_of_nonneg hN] at hbal
  have hlen := h.len
  have hle : fires s.callers 0 ≤ s.callers.length := List.countP_le_length
  by_cases hex : ∃ c ∈ s.callers, c.phase = Phase.passed
  · -- somebody passed: the counter is used up, `N` calls were failed
    obtain ⟨c, hc, hp⟩ := hex
    rw [pos_of_nonpos (h.passed c hc hp)] at hbal
    omega
  · -- nobody passed: everybody was failed, through description 0
    have hall : fires s.callers 0 = s.callers.length := List.countP_eq_length.mpr fun c hc => by
      rcases hq c hc with ⟨i, hi⟩ | hp
      · obtain ⟨k, hk⟩ := List.mem_iff_getElem?.mp hc
        obtain ⟨d1, hd1, _⟩ := h.inv.fit k c i hk (Or.inr hi)
        cases i with
        | zero => rw [hi]; rfl
        | succ n => cases hd1
      · exact absurd ⟨c, hc, hp⟩ hex
    have := pos_nonneg (cnt s.descs 0)
    omega

/-- **C18 (listing)**: the listing shows exactly the descriptions with a positive remaining count, and
    pruning removes exactly the exhausted ones. -/
theorem C18_listing (ds : List Desc) (d : Desc) : d ∈ current ds ↔ d ∈ ds ∧ 0 < d.count := by
  unfold current
  simp [List.mem_filter]

theorem C18_prune (ds : List Desc) (d : Desc) : d ∈ prune ds ↔ d ∈ ds ∧ 0 < d.count := C18_listing ds d

end Mmmbbb.Faults

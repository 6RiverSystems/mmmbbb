/-
C02 — Only rightful, intact messages are delivered; subscriptions are independent.

"A pull on a subscription only ever returns messages that were published to its topic (or
dead-lettered to it) while the subscription existed, that satisfy its filter and are currently
outstanding on it; it returns at most the requested number, never repeats a delivery within one
response, and each carries the message id returned by Publish, the same JSON payload value, and
exactly the published attributes and ordering key.  Acks, nacks, seeks, deletes or filters of one
subscription never change what another subscription receives, other than through dead-letter
forwarding that was configured between them."
-/
import Mmmbbb.Properties.C03
import Mmmbbb.Properties.C13
namespace Mmmbbb

/-- **C02 (pull soundness)**: every element of a pull response on subscription `s` names a delivery
    row of `s` that is not completed, inside its retention and due (that on an ordered subscription it
    is not blocked either is `C05_pull_respects_link`); the response has at most `max` elements and no
    delivery id twice. -/
theorem C02_pull_sound {db : Db} {now : Time} {sub : String} {max maxBytes : Nat} {strict : Bool}
    {wait : Int} {obs : PullObs} {o : TxOut PullRes} {now' : Time}
    (h : pull db now sub max maxBytes strict wait obs = .ok (o, now')) :
    (∃ s, db.liveSubByName sub = some s ∧
      ∀ x ∈ o.val.delivered, ∃ c, db.delById x.1 = some c ∧ c.subId = s.id ∧ c.completedAt = none ∧
        now < c.expiresAt ∧ c.attemptAt ≤ now) ∧
    o.val.delivered.length ≤ max ∧ (o.val.delivered.map (·.1)).Nodup := by
  obtain ⟨s, cands, D, hs, hmax, hnd, hcands, hsub, hD, _⟩ := pull_spec h
  refine ⟨⟨s, hs, fun x hx => ?_⟩, ?_, ?_⟩
  · rw [hD] at hx
    obtain ⟨y, hy, rfl⟩ := List.mem_map.mp hx
    obtain ⟨hc, helig⟩ := hcands y.1 (hsub.subset (List.mem_map.mpr ⟨y, hy, rfl⟩))
    obtain ⟨hsid, hopen, hret, hdue, _⟩ := Db.eligible_iff.mp helig
    exact ⟨y.1, hc, hsid, hopen, hret, hdue⟩
  · have := hsub.length_le
    simp only [hD, List.length_map] at this ⊢
    omega
  · have := (hsub.map (·.id)).nodup hnd
    rw [List.map_map] at this
    rw [hD, List.map_map]
    exact this

/-- **C02 (messages are immutable)**: no operation rewrites a message row (payload, attributes,
    ordering key, id); only the unreferenced-message prune job may remove one. -/
theorem C02_msgs_immutable (st : St) (op : Op) (hop : ∀ a mx v, op ≠ .pruneCompletedMessages a mx v) :
    ∀ m ∈ st.db.msgs, m ∈ (step st op).1.db.msgs := by
  intro m hm
  obtain ⟨_, he⟩ | ⟨_, _, _, _, _, hc, he⟩ := step_spec st op <;> rw [he]
  · exact hm
  · have of_eq : ∀ {db' : Db}, db'.msgs = st.db.msgs → m ∈ db'.msgs := fun e => e ▸ hm
    cases hc with
    | advance => exact hm
    | createTopic h => obtain ⟨_, _, rfl⟩ := createTopic_ok h; exact hm
    | deleteTopic h => obtain ⟨_, _, _, rfl⟩ := deleteTopic_ok h; exact hm
    | createSub h =>
      obtain ⟨_, _, _, _, _, _, hdb, _⟩ := createSub_ok h
      rw [hdb]
      exact hm
    | deleteSub h => obtain ⟨_, _, _, rfl⟩ := deleteSub_ok h; exact hm
    | publish h => exact (publish_rel rowRel_mono h).2.2.2.2 m hm
    | pull h => exact of_eq (pull_rel rowRel_mono (fun d δ _ _ => rowMono_lease _ δ d) h).2.2.1
    | ack h => exact of_eq (ack_rel rowRel_mono h).2.2.2.1
    | nack h => exact of_eq (nack_rel rowRel_mono rowMono_attemptAt h).2.2.2.1
    | delay h => exact of_eq (delay_rel rowRel_mono (fun d _ => rowMono_attemptAt d _) h).2.2.2.1
    | dlSweep h => exact of_eq (dlSweep_rel rowRel_mono h).2.2.2.1
    | seekTime h => obtain ⟨_, _, rfl⟩ := seekTime_ok h; exact hm
    | seekSnap h => obtain ⟨_, _, _, _, rfl⟩ := seekSnap_ok h; exact hm
    | snapshot h => obtain ⟨_, _, _, _, _, _, _, _, _, rfl⟩ := createSnapshot_ok h; exact hm
    | deleteSnap h => obtain ⟨_, rfl⟩ := deleteSnapshot_ok h; exact hm
    | setDelay h => obtain ⟨_, rfl⟩ := setDelay_ok h; exact hm
    | expireSubs h => obtain ⟨_, rfl⟩ := expireSubs_ok h; exact hm
    | pruneCompletedDeliveries h => obtain ⟨_, rfl⟩ := pruneCompletedDeliveries_ok h; exact hm
    | pruneExpiredDeliveries h => obtain ⟨_, rfl⟩ := pruneExpiredDeliveries_ok h; exact hm
    | pruneCompletedMessages => exact absurd rfl (hop _ _ _)
    | pruneDeletedSubDeliveries h => obtain ⟨_, rfl⟩ := pruneDeletedSubDeliveries_ok h; exact hm
    | pruneDeletedSubs h => obtain ⟨_, rfl⟩ := pruneDeletedSubs_ok h; exact hm
    | pruneDeletedTopics h => obtain ⟨_, _, rfl⟩ := pruneDeletedTopics_ok h; exact hm

/-- **C02 (subscription independence of acks and deadline changes)**: `ack` / `delay` only touch
    rows whose id is listed; in particular when all listed ids belong to subscription A, every row of
    any other subscription B is untouched. -/
theorem C02_ack_only_listed (db : Db) (now : Time) (ids : List Id) (o : TxOut Nat) (h : ack db now ids = .ok o)
    (d : Delivery) (hd : d ∈ db.dels) (hn : d.id ∉ ids) : d ∈ o.db.dels :=
  C03_ack_no_side_effect db now ids o h d hd (Or.inl (by simpa using hn))

theorem C02_delay_only_listed (db : Db) (now : Time) (ids : List Id) (Δ : Int) (o : TxOut Nat)
    (h : delay db now ids Δ = .ok o) (d : Delivery) (hd : d ∈ db.dels) (hn : d.id ∉ ids) : d ∈ o.db.dels := by
  obtain ⟨p, hp, rfl⟩ := delay_ok h
  exact mem_updateWhere_of_false hd
    (Bool.eq_false_iff.mpr fun hpd => hn (List.contains_iff_mem.mp ((hp d).mp hpd).1))

/-- **C02 (a seek to a time does not touch other subscriptions)**; the seek to a snapshot has no such
    corollary: what it does row by row is `C13_seek_snap`. -/
theorem C02_seek_other_subs (db : Db) (now : Time) (sub : String) (T : Time) (o : TxOut (Nat × Nat))
    (h : seekTime db now sub T = .ok o) :
    ∃ s, db.liveSubByName sub = some s ∧ ∀ d ∈ db.dels, d.subId ≠ s.id → d ∈ o.db.dels := by
  obtain ⟨s, hs, hdels, _⟩ := C13_seek_time db now sub T o h
  refine ⟨s, hs, ?_⟩
  intro d hd hne
  rw [hdels]
  refine List.mem_map.mpr ⟨d, hd, C13_seek_time_other_subs s now T d ?_⟩
  simpa using hne

end Mmmbbb

/-
C16 — No request can crash the server; rejected requests change nothing.

"Every request on the Publisher and Subscriber APIs — whatever its field values, including zero,
negative, missing or malformed ones — is answered with a gRPC status; none terminates or wedges
the server.  A request that is answered with an error leaves all topics, subscriptions, messages
and deliveries unchanged."

`Api.handle` models the handlers — all but `StreamingPull` and `UpdateSnapshot`, which `Api.Rpc` lacks;
Pull, Publish, Acknowledge and ModifyAckDeadline without their transaction — as validation → parameter
mapping → **constructor preconditions as an explicit `panic` outcome** → transaction → status.  The
production interceptor chain has no recovery interceptor (`recoveryInterceptorPresent`, regenerated from
`grpc/server.go`, evaluates to `false`), so a panic outcome would terminate the process: the theorem is
that no request reaches one.
-/
import Mmmbbb.Model.Api
namespace Mmmbbb.Api

/-- Does one of the production interceptor chains, as found in the source (`grpc/server.go`, regenerated),
    recover from a panic?  Informational, no theorem uses it: today they are logging, metrics and fault
    injection, so a panic would end the process; the property is that no request reaches a panic outcome,
    which holds whether or not an interceptor would catch one. -/
def recoveryInterceptorPresent : Bool :=
  (Extracted.unaryInterceptors ++ Extracted.streamInterceptors).any fun n => (n.splitOn "ecover").length > 1

/-- a name that passes a handler's `if !isValid…Name n` check (`k` is the kind) is not empty -/
theorem validName_nonempty {k n : String} (h : ¬(!validName k n) = true) : emptyName n = false := by
  unfold validName at h
  unfold emptyName
  cases hn : n.toList with
  | nil => rw [hn] at h; simp [splitSlash] at h
  | cons c r => rfl

theorem defaults_pos : 0 < Extracted.defaultSubscriptionTTL ∧ 0 < Extracted.defaultSubscriptionMessageTTL ∧
    0 < Extracted.defaultDeadLetterMaxAttempts := by decide

theorem emptyName_empty : emptyName "" = true := by decide

theorem ite_some_eq_none {α} {c : Prop} [Decidable c] {a : α} {b : Option α}
    (h : (if c then some a else b) = none) : ¬c ∧ b = none := by
  by_cases hc : c
  · rw [if_pos hc] at h; cases h
  · rw [if_neg hc] at h; exact ⟨hc, h⟩

/-- "0 means the default" turns a non-negative duration or count into a positive one -/
theorem zero_default_pos {x d : Int} (hx : ¬ x < 0) (hd : 0 < d) : 0 < (if x == 0 then d else x) := by
  split
  · exact hd
  · rename_i hne
    have : x ≠ 0 := fun e => hne (beq_iff_eq.mpr e)
    omega

/-- a `CreateSubscription` request that passes validation satisfies the preconditions of
    `NewCreateSubscription` (TTL > 0, retention > 0, attempts ≥ 0, policy complete) -/
theorem createSub_validated_ok (r : SubReq) (h : createSubValidate r = none) : newCreateSubscriptionOk (toParams r) = true := by
  obtain ⟨d1, d2, d3⟩ := defaults_pos
  unfold createSubValidate at h
  obtain ⟨-, h⟩ := ite_some_eq_none h
  obtain ⟨-, h⟩ := ite_some_eq_none h
  split at h
  · cases h
  obtain ⟨hexp, h⟩ := ite_some_eq_none h
  obtain ⟨hret, h⟩ := ite_some_eq_none h
  have httl := zero_default_pos hexp d1
  have hmsg := zero_default_pos hret d2
  unfold createDlCheck at h
  unfold newCreateSubscriptionOk toParams
  simp only [Bool.and_eq_true, decide_eq_true_eq]
  revert h
  cases r.dl with
  | none =>
    intro _
    exact ⟨⟨⟨httl, hmsg⟩, Int.le_refl 0⟩, by rw [emptyName_empty]; rfl⟩
  | some d =>
    intro h
    obtain ⟨hte, h⟩ := ite_some_eq_none h
    obtain ⟨hneg, -⟩ := ite_some_eq_none h
    have hpos := zero_default_pos hneg d3
    dsimp only
    refine ⟨⟨⟨httl, hmsg⟩, Int.le_of_lt hpos⟩, ?_⟩
    generalize (if d.maxAttempts == 0 then Extracted.defaultDeadLetterMaxAttempts else d.maxAttempts) = x at hpos
    have hx : (x != 0) = true := bne_iff_ne.mpr (by omega)
    rw [hx, Bool.eq_false_iff.mpr hte]
    rfl

/-! ### no validation step answers `panic`

Each validator returns `none` (passed), one of a few literal statuses, or what another validator
returned; the lemmas below walk its branches once. -/

theorem ite_ne {α} {c : Prop} [Decidable c] {a b x : α} (ha : a ≠ x) (hb : b ≠ x) :
    (if c then a else b) ≠ x := by
  split <;> assumption

theorem ofErr_ne_panic (e : Err) : ofErr e ≠ .panic := by cases e <;> nofun

theorem topicPaths_ne_panic : ∀ (ps : List String) (b : Bool), topicPaths ps b ≠ .error .panic
  | [], _ => nofun
  | _ :: r, _ => by
    unfold topicPaths
    exact ite_ne nofun <| ite_ne (topicPaths_ne_panic r true) <| ite_ne nofun nofun

theorem validatePush_ne_panic (p : Option PushCfg) : validatePush p ≠ some .panic := by
  unfold validatePush
  split
  · nofun
  · split
    · nofun
    · exact ite_ne nofun nofun

theorem pathError_ne_panic (db : Db) (r : SubReq) (p : String) : pathError db r p ≠ some .panic := by
  unfold pathError
  -- one `ite_ne` per path name, in the order of the definition; `?_` is `dead_letter_policy`
  refine ite_ne nofun <| ite_ne nofun <| ite_ne nofun <| ite_ne nofun <| ite_ne nofun <| ite_ne nofun <|
    ite_ne nofun <| ite_ne (validatePush_ne_panic _) <| ite_ne (ite_ne nofun nofun) <| ite_ne ?_ nofun
  split
  · nofun
  · refine ite_ne nofun ?_
    split <;> nofun

theorem applyPaths_cons (db : Db) (r : SubReq) (p : String) (ps : List String) (u : SubUpdate × String) :
    applyPaths db r (p :: ps) u =
      match pathError db r p with
      | some st => .error st
      | none => applyPaths db r ps (pathUpdate db r p u) := by
  conv => lhs; unfold applyPaths applyPath
  cases pathError db r p <;> rfl

theorem applyPaths_ne_panic (db : Db) (r : SubReq) : ∀ (ps : List String) (u : SubUpdate × String),
    applyPaths db r ps u ≠ .error .panic
  | [], _ => nofun
  | p :: ps, u => by
    rw [applyPaths_cons]
    split
    · rename_i st h
      exact fun e => pathError_ne_panic db r p (Except.error.inj e ▸ h)
    · exact applyPaths_ne_panic db r ps _

theorem createPushCheck_ne_panic (p : Option PushCfg) : createPushCheck p ≠ some .panic := by
  unfold createPushCheck
  split
  · nofun
  · exact ite_ne nofun <| ite_ne nofun <| ite_ne nofun nofun

theorem createDlCheck_ne_panic (d : Option DlPolicy) : createDlCheck d ≠ some .panic := by
  unfold createDlCheck
  split
  · exact ite_ne nofun <| ite_ne nofun nofun
  · nofun

theorem createSubValidate_ne_panic (r : SubReq) : createSubValidate r ≠ some .panic := by
  unfold createSubValidate
  refine ite_ne nofun <| ite_ne nofun ?_
  split
  · rename_i st h
    exact fun e => createPushCheck_ne_panic _ (Option.some.inj e ▸ h)
  · exact ite_ne nofun <| ite_ne nofun <| createDlCheck_ne_panic _

/-! ### the handlers

What is shown of the answer `x` to a request made in state `db`: it is OK, or it is a status other than
`panic` and the database is `db` still.  The four rules below are the leaves and the `if`s of a handler. -/

def Safe (db : Db) (x : Db × Resp) : Prop := x.2.status = .ok ∨ (x.1 = db ∧ x.2.status ≠ .panic)

theorem Safe.ok {db db' : Db} {b : String} {w : List Id} : Safe db (db', { status := .ok, body := b, wakes := w }) :=
  .inl rfl

theorem Safe.reject {db : Db} {st : Status} (h : st ≠ .panic) : Safe db (db, { status := st }) := .inr ⟨rfl, h⟩

/-- a validation step; by default its status is a literal -/
theorem Safe.guard {db : Db} {c : Prop} [Decidable c] {st : Status} {x : Db × Resp} (hx : ¬c → Safe db x)
    (hst : st ≠ .panic := by nofun) : Safe db (if c then (db, { status := st }) else x) :=
  iteInduction (fun _ => .reject hst) hx

/-- a constructor precondition (`if violated then panic else x`) that is met -/
theorem Safe.pre {db : Db} {c : Prop} [Decidable c] {x y : Db × Resp} (hc : ¬c) (hx : Safe db x) :
    Safe db (if c then y else x) :=
  if_neg hc ▸ hx

/-- One walk over the branches of each handler (applying a rule unfolds the handler as far as its first
    `if`); handlers that are copies of one another share their script. -/
theorem handle_outcome (db : Db) (now : Time) (rpc : Rpc) : Safe db (handle db now rpc) := by
  cases rpc with
  | getTopic name | getSub name | getSnap name =>
    refine .guard fun _ => ?_
    split
    · exact .reject nofun
    · exact .ok
  | deleteTopic name | deleteSub name | deleteSnap name =>
    refine .guard fun _ => ?_
    split
    · exact .reject (ofErr_ne_panic _)
    · exact .ok
  | listTopics project pageSize token | listSubs project pageSize token | listSnaps project pageSize token =>
    rcases token with _ | _ | _
    · exact .ok
    · exact .reject nofun
    · exact .ok
  | listTopicSubs topic pageSize token =>
    refine .guard fun _ => ?_
    split
    · exact .reject nofun
    · rcases token with _ | _ | _
      · exact .ok
      · exact .reject nofun
      · exact .ok
  | createTopic name labels advanced newId =>
    refine .guard fun hv => .guard fun _ => .pre ?_ ?_
    · rw [validName_nonempty hv]; nofun
    · split
      · exact .reject (ofErr_ne_panic _)
      · exact .ok
  | updateTopic topic paths =>
    rcases topic with _ | ⟨name, labels⟩
    · exact .reject nofun
    · refine .guard fun _ => ?_
      split
      · exact .reject nofun
      · split
        · rename_i st h
          exact .reject fun e => topicPaths_ne_panic _ _ (e ▸ h)
        · exact .ok
        · exact .ok
  | createSub r newId =>
    simp only [handle, hCreateSub]
    split
    · rename_i st h
      exact .reject fun e => createSubValidate_ne_panic r (e ▸ h)
    · rename_i hv
      refine .pre ?_ ?_
      · rw [createSub_validated_ok r hv]; nofun
      · split
        · exact .reject (ofErr_ne_panic _)
        · split <;> exact .ok
  | updateSub r paths =>
    cases r with
    | none => exact .reject nofun
    | some r =>
      refine .guard fun _ => ?_
      split
      · exact .reject nofun
      · simp only
        split
        · rename_i st h
          exact .reject fun e => applyPaths_ne_panic db _ _ _ (e ▸ h)
        · split <;> exact .ok
  | modifyPush name push =>
    refine .guard fun _ => ?_
    split
    · rename_i st h
      exact .reject fun e => validatePush_ne_panic _ (e ▸ h)
    · split
      · exact .reject nofun
      · exact .ok
  | pullCheck name maxMessages =>
    refine .guard fun hv => .guard fun hmax => .pre ?_ ?_
    · unfold newGetSubscriptionMessagesOk
      rw [validName_nonempty hv]
      simp
      omega
    · split
      · exact .reject nofun
      · exact .ok
  | ackCheck name idsParse isAck =>
    exact .guard fun _ => .guard (fun _ => .ok) (ite_ne nofun nofun)
  | seek name target =>
    refine .guard fun hv => ?_
    cases target with
    | none => exact .reject nofun
    | timeZero => exact .reject nofun
    | time t =>
      refine .pre ?_ ?_
      · rw [validName_nonempty hv]; nofun
      · split
        · exact .reject (ofErr_ne_panic _)
        · exact .ok
    | snapshot sn =>
      refine .guard fun hsv => .pre ?_ ?_
      · rw [validName_nonempty hv, validName_nonempty hsv]; nofun
      · split
        · exact .reject (ofErr_ne_panic _)
        · exact .ok
  | createSnap name sub labels newId =>
    refine .guard fun hv => .guard fun hsv => .pre ?_ ?_
    · rw [validName_nonempty hv, validName_nonempty hsv]; nofun
    · split
      · exact .reject (ofErr_ne_panic _)
      · split <;> exact .ok
  | publishCheck topic bad =>
    refine .guard fun _ => ?_
    split
    · exact .reject nofun
    · exact .guard fun _ => .ok

/-- **C16 (no request crashes the server)**: for every database state, every instant and every
    request — all field values, not a sample — the handler's outcome is a status, never a panic. -/
theorem C16_no_panic (db : Db) (now : Time) (rpc : Rpc) : (handle db now rpc).2.status ≠ .panic := by
  rcases handle_outcome db now rpc with h | h
  · rw [h]; nofun
  · exact h.2

/-- **C16 (rejected requests change nothing)**: a request answered with anything but OK leaves all five
    tables exactly as they were — for every state and every request. -/
theorem C16_error_no_change (db : Db) (now : Time) (rpc : Rpc) (h : (handle db now rpc).2.status ≠ .ok) :
    (handle db now rpc).1 = db :=
  ((handle_outcome db now rpc).resolve_left h).1

/-! ### the pusher a push subscription gets

An accepted `CreateSubscription` with a push endpoint makes the push service start a streamer for the
subscription.  Its lease-renewal ticker runs at 9/20 of the subscription's minimum backoff — any
positive number of nanoseconds passes the request validation — and `time.NewTicker` panics on a
non-positive interval, in a goroutine nothing recovers. -/

/-- the interval handed to `time.NewTicker`, for a minimum backoff of `minB` ns (absent: the default) -/
def tickerInterval (floor : Int) (minB : Option Int) : Int :=
  let delayAmount := (match minB with | some m => m | none => Extracted.defaultMinDelay) / 2
  let checkInterval := delayAmount * 9 / 10
  if checkInterval < floor then floor else checkInterval

theorem le_tickerInterval (floor : Int) (minB : Option Int) : floor ≤ tickerInterval floor minB := by
  unfold tickerInterval
  simp only
  split <;> omega

/-- **C16 (no request can make the pusher's ticker panic)**: whatever minimum backoff a subscription was
    accepted with, the interval is positive — because the source keeps a positive floor under it
    (regenerated fact) -/
theorem C16_ticker_interval_positive :
    Extracted.streamerTickerFloors ≠ [] ∧
    ∀ f ∈ Extracted.streamerTickerFloors, 0 < f ∧ ∀ minB : Option Int, 0 < tickerInterval f minB := by
  refine ⟨by decide, fun f hf => ?_⟩
  have hpos : 0 < f := by revert f; decide
  exact ⟨hpos, fun minB => Int.lt_of_lt_of_le hpos (le_tickerInterval f minB)⟩

/-- without the floor a minimum backoff of one nanosecond gives the interval 0 -/
example : tickerInterval 0 (some 1) = 0 := by decide

end Mmmbbb.Api

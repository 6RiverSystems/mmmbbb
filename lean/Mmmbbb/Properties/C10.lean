/-
C10 — No lost wake-up.

"A Pull or StreamingPull that is waiting because nothing is deliverable returns the message promptly
(without waiting for its own timeout or an unrelated retry timer) after any committed change that
makes a message deliverable on its subscription …  This holds wherever the change lands relative to
the waiter's own steps, and when one request affects several subscriptions at once."

The protocol model (Model/Notify.lean) has any number of waiters and writers, every writer touching
any list of subscriptions, and *no timer at all*: whatever progress a waiter makes in the model it
makes without its timeout and without a retry timer.  A schedule is an arbitrary list of process
steps at transaction-boundary granularity, so the theorems below quantify over every interleaving,
including the change committing before the waiter registers, between its check and its wait, and
after it waits.  The two source facts the proof rests on (`continue` in WakePublishListeners,
register-before-query in the pull loop) are read from the source on every run (`Cfg.ofSource`);
for each alternative a concrete schedule that loses a wake-up is exhibited.
-/
import Mmmbbb.Proofs.Notify
import Mmmbbb.Proofs.Wakes
namespace Mmmbbb.Notify

/-- the source has the configuration the invariant needs (re-checked on every run against the
    regenerated `Extracted`) -/
theorem ofSource_good : Cfg.ofSource.Good :=
  ⟨rfl, rfl⟩

/-- the renewals in the streamer: every `case <-pubNotify` takes a fresh awaiter first, and the pull
    loop's select loops again on a wake-up -/
theorem C10_source_shape :
    (∀ r ∈ Extracted.streamerRenewals, r = "renews") ∧ Extracted.streamerRenewals.length = 2 ∧
    "pubAwaiter:continue" ∈ Extracted.pullSelectCases := by
  simp [Extracted.streamerRenewals, Extracted.pullSelectCases]

/-- **C10 (no lost wake-up, every schedule)**: in every state reachable by any interleaving of any
    waiters and writers — each writer waking at least the subscriptions on which it makes something
    deliverable (`hcov`; for the operations of the store this is what the `wk=` comparison of the
    correspondence run checks on every operation) — a waiter that would sleep until woken (query came
    back empty or already blocked, channel still open) while something is deliverable on its
    subscription always has a committed writer whose wake-up call for that subscription is still
    to come. -/
theorem C10_no_lost_wakeup (subs maxes : Nat → Nat) (writers : Nat → List (Nat × Nat) × List Nat) (avail : Nat → Nat)
    (hcov : ∀ j s, 0 < addsFor (writers j).1 s → s ∈ (writers j).2) (sched : List Proc) :
    let σ := run Cfg.ofSource (init subs maxes writers avail) sched
    ∀ i, StuckProne σ.open (σ.waiter i) → 0 < σ.avail (σ.waiter i).sub →
      ∃ j, (σ.writer j).pc = 1 ∧ (σ.waiter i).sub ∈ (σ.writer j).wakes :=
  (Inv.reachable Cfg.ofSource ofSource_good subs maxes writers avail hcov sched).nolost

/-- **C10 (quiescence)**: once no commit hook is pending, nobody sleeps on a subscription that has a
    deliverable message. -/
theorem C10_quiescent (subs maxes : Nat → Nat) (writers : Nat → List (Nat × Nat) × List Nat) (avail : Nat → Nat)
    (hcov : ∀ j s, 0 < addsFor (writers j).1 s → s ∈ (writers j).2) (sched : List Proc) :
    let σ := run Cfg.ofSource (init subs maxes writers avail) sched
    (∀ j, (σ.writer j).pc ≠ 1) → ∀ i, 0 < σ.avail (σ.waiter i).sub → ¬ StuckProne σ.open (σ.waiter i) := by
  intro σ hq i ha hs
  obtain ⟨j, hj, _⟩ := C10_no_lost_wakeup subs maxes writers avail hcov sched i hs ha
  exact hq j hj

/-! ### progress: a waiter with something deliverable returns within four of its own steps -/

section
variable {cfg : Cfg} {σ : Sys} {i : Nat}

theorem waiterStep_pc0 (h : (σ.waiter i).pc = 0) : waiterStep cfg σ i = setW σ i { σ.waiter i with pc := 1 } := by
  unfold waiterStep; simp only [h]

theorem waiterStep_pc1 (h : (σ.waiter i).pc = 1) : waiterStep cfg σ i = reloop cfg σ i := by
  unfold waiterStep; simp only [h]

theorem waiterStep_not_stuck (hr : cfg.registerFirst = true)
    (h : (σ.waiter i).pc = 3 ∧ (σ.waiter i).found = false ∨ (σ.waiter i).pc = 4)
    (hns : ¬ StuckProne σ.open (σ.waiter i)) : waiterStep cfg σ i = reloop cfg σ i := by
  have hc : chanOpen σ.open (σ.waiter i).chan = false := Bool.eq_false_iff.mpr fun hc => hns ⟨h, hc⟩
  unfold waiterStep
  rcases h with ⟨h, hf⟩ | h
  · simp [h, hf, hr, hc]
  · simp [h, hc]

theorem reloop_spec (cfg : Cfg) (σ : Sys) (i : Nat) :
    ((reloop cfg σ i).waiter i).pc = 2 ∧ ((reloop cfg σ i).waiter i).sub = (σ.waiter i).sub ∧
    (reloop cfg σ i).avail = σ.avail := by
  unfold reloop
  cases cfg.registerFirst <;> simp [register]

theorem waiterStep_query (hpc : (σ.waiter i).pc = 2) (ha : 0 < σ.avail (σ.waiter i).sub) :
    ((waiterStep cfg σ i).waiter i).pc = 3 ∧ ((waiterStep cfg σ i).waiter i).found = true := by
  unfold waiterStep
  simp only [hpc]
  simp [ha]

theorem waiterStep_return (hpc : (σ.waiter i).pc = 3) (hf : (σ.waiter i).found = true) :
    ((waiterStep cfg σ i).waiter i).pc = 5 := by
  unfold waiterStep
  simp only [hpc, hf]
  simp

theorem waiterStep_done (hpc : (σ.waiter i).pc = 5) : waiterStep cfg σ i = σ := by
  unfold waiterStep
  simp only [hpc]

theorem run_waiter (σ : Sys) (i : Nat) (n : Nat) :
    run cfg σ (List.replicate (n + 1) (.waiter i)) = run cfg (waiterStep cfg σ i) (List.replicate n (.waiter i)) := rfl

theorem run_done (hpc : (σ.waiter i).pc = 5) (n : Nat) :
    ((run cfg σ (List.replicate n (.waiter i))).waiter i).pc = 5 := by
  induction n with
  | zero => exact hpc
  | succ n ih => rw [run_waiter, waiterStep_done hpc]; exact ih

theorem returns_of_registered (hpc : (σ.waiter i).pc = 2) (ha : 0 < σ.avail (σ.waiter i).sub) (n : Nat) :
    ((run cfg σ (List.replicate (n + 2) (.waiter i))).waiter i).pc = 5 := by
  obtain ⟨h3, hf⟩ := waiterStep_query hpc ha
  rw [run_waiter, run_waiter]
  exact run_done (waiterStep_return h3 hf) n

theorem returns_of_reloop (ha : 0 < σ.avail (σ.waiter i).sub) (n : Nat) :
    ((run cfg (reloop cfg σ i) (List.replicate (n + 2) (.waiter i))).waiter i).pc = 5 := by
  obtain ⟨h2, hs, hav⟩ := reloop_spec cfg σ i
  exact returns_of_registered h2 (by rw [hs, hav]; exact ha) n

theorem returns_of_not_stuck (hr : cfg.registerFirst = true) (ha : 0 < σ.avail (σ.waiter i).sub)
    (hle : (σ.waiter i).pc ≤ 5) (hns : ¬ StuckProne σ.open (σ.waiter i)) {k : Nat} (hk : 4 ≤ k) :
    ((run cfg σ (List.replicate k (.waiter i))).waiter i).pc = 5 := by
  obtain ⟨n, rfl⟩ := Nat.exists_eq_add_of_le' hk
  have hcases : (σ.waiter i).pc = 0 ∨ (σ.waiter i).pc = 1 ∨ (σ.waiter i).pc = 2 ∨ (σ.waiter i).pc = 3 ∨
      (σ.waiter i).pc = 4 ∨ (σ.waiter i).pc = 5 := by omega
  -- at pc 1, and for a sleeper whose channel is closed, one step leads to the top of the loop
  have loop : waiterStep cfg σ i = reloop cfg σ i →
      ((run cfg σ (List.replicate (n + 4) (.waiter i))).waiter i).pc = 5 := fun e => by
    rw [run_waiter, e]
    exact returns_of_reloop ha (n + 1)
  rcases hcases with h0 | h1 | h2 | h3 | h4 | h5
  · rw [run_waiter, run_waiter, waiterStep_pc0 h0, waiterStep_pc1 (by simp)]
    exact returns_of_reloop (by simpa using ha) n
  · exact loop (waiterStep_pc1 h1)
  · exact returns_of_registered h2 ha (n + 2)
  · cases hf : (σ.waiter i).found with
    | true =>
      rw [run_waiter]
      exact run_done (waiterStep_return h3 hf) (n + 3)
    | false => exact loop (waiterStep_not_stuck hr (.inl ⟨h3, hf⟩) hns)
  · exact loop (waiterStep_not_stuck hr (.inr h4) hns)
  · exact run_done h5 (n + 4)

end

/-- **C10 (prompt return)**: in any reachable state in which no commit hook is pending, a waiter whose
    subscription has a deliverable message has returned after four of its own steps — the model has no
    timer, so neither its timeout nor a retry timer is involved — provided nobody else takes the
    message first (the schedule here runs the waiter alone).  `pc ≤ 5` holds of every reachable
    state, but no invariant says so: the caller supplies it. -/
theorem C10_returns (subs maxes : Nat → Nat) (writers : Nat → List (Nat × Nat) × List Nat) (avail : Nat → Nat)
    (hcov : ∀ j s, 0 < addsFor (writers j).1 s → s ∈ (writers j).2) (sched : List Proc) :
    let σ := run Cfg.ofSource (init subs maxes writers avail) sched
    (∀ j, (σ.writer j).pc ≠ 1) → ∀ i, 0 < σ.avail (σ.waiter i).sub → (σ.waiter i).pc ≤ 5 →
      ((run Cfg.ofSource σ (List.replicate 4 (.waiter i))).waiter i).pc = 5 := by
  intro σ hq i ha hle
  have hns := C10_quiescent subs maxes writers avail hcov sched hq i ha
  exact returns_of_not_stuck ofSource_good.2 ha hle hns (Nat.le_refl 4)

/-! ### the two source facts are necessary: each alternative loses a wake-up -/

/-- every waiter is on subscription 1; every writer makes a message deliverable on subscription 1 and
    wakes subscriptions [0, 1] (nobody waits on 0); the schedules below move waiter 0 and writer 0 only -/
def demo : Sys := init (fun _ => 1) (fun _ => 10) (fun _ => ([(1, 1)], [0, 1])) (fun _ => 0)

def lost (σ : Sys) (i : Nat) : Bool :=
  (σ.waiter i).pc == 4 && chanOpen σ.open (σ.waiter i).chan && decide (0 < σ.avail (σ.waiter i).sub) &&
  (σ.writer 0).pc == 2

/-- with `return` instead of `continue` in WakePublishListeners the waiter sleeps on: the waiter
    registers, queries, blocks; the writer commits and its wake-up call stops at subscription 0 -/
theorem C10_return_variant_loses :
    lost (run { wakeContinue := false, registerFirst := true } demo
      [.waiter 0, .waiter 0, .waiter 0, .waiter 0, .writer 0, .writer 0]) 0 = true := by decide

/-- with the query before the registration the waiter sleeps on: it queries (nothing there), the
    writer commits and wakes (nobody registered), then the waiter registers and blocks -/
theorem C10_late_register_variant_loses :
    lost (run { wakeContinue := true, registerFirst := false } demo
      [.waiter 0, .waiter 0, .waiter 0, .writer 0, .writer 0, .waiter 0]) 0 = true := by decide

/-- non-vacuity: under the source's configuration the first schedule ends with the waiter not lost,
    and running the waiter alone returns the message -/
example : lost (run Cfg.ofSource demo [.waiter 0, .waiter 0, .waiter 0, .waiter 0, .writer 0, .writer 0]) 0 = false := by decide
example : ((run Cfg.ofSource demo [.waiter 0, .waiter 0, .waiter 0, .waiter 0, .writer 0, .writer 0,
    .waiter 0, .waiter 0, .waiter 0]).waiter 0).pc = 5 := by decide

end Mmmbbb.Notify

/-! ### the store side: the writers named by the property wake every subscription whose rows they touch

`hcov` above is a hypothesis about writers.  For the store model (`Model/Actions.lean`, the one the
correspondence runs compare with the implementation operation by operation, wake set included) it is
discharged here: each of these operations leaves the delivery rows of every subscription *outside*
its wake set exactly as they were and adds no row there (`SameUnwoken`, Proofs/Wakes.lean), so nothing
can have become deliverable on a subscription that is not woken.  (Dead-lettering wakes the source
subscription and the forward targets by construction: `deadLetter_ok`, `deliverAll_shape`.) -/
namespace Mmmbbb

/-- **publish**: every new row belongs to a woken subscription; old rows are untouched -/
theorem C10_wakes_cover_publish {db : Db} {t : Topic} {now : Time} {pm : PubMsg} {db' : Db} {w : List Id}
    (h : publishOne db t now pm = .ok (db', w)) : SameUnwoken w db.dels db'.dels := by
  obtain ⟨_, m, _, h⟩ := publishOne_ok h
  obtain ⟨rows, hrows, rfl, rfl⟩ := deliverAll_shape h
  obtain ⟨hsubs, _, _⟩ := mkRows_spec _ _ _ _ _ _ hrows
  constructor
  · intro d hd _; exact List.mem_append_left _ hd
  · intro d' hd' hnw
    rcases List.mem_append.mp hd' with h1 | h1
    · exact h1
    · exact absurd (hsubs ▸ List.mem_map.mpr ⟨d', h1, rfl⟩) hnw

/-- **ack** changes rows only of the subscriptions it wakes -/
theorem C10_wakes_cover_ack {db : Db} {now : Time} {ids : List Id} {o : TxOut Nat} (h : ack db now ids = .ok o) :
    SameUnwoken o.wakes db.dels o.db.dels := by
  unfold ack at h
  injection h with h; subst h
  exact updateWhere_unwoken fun _ hd hp => mem_dedup_map_filter hd hp

/-- **zero-deadline nack** (ModifyAckDeadline 0): rows change only on woken subscriptions -/
theorem C10_wakes_cover_zero_deadline {db : Db} {now : Time} {ids : List Id} {Δ : Int} (hΔ : Δ ≤ 0) {o : TxOut Nat}
    (h : delay db now ids Δ = .ok o) : SameUnwoken o.wakes db.dels o.db.dels := by
  obtain ⟨p, _, rfl⟩ := delay_ok h
  simp only [hΔ, if_true]
  exact updateWhere_unwoken fun _ hd hp => mem_dedup_map_filter hd hp

/-- **seek to a time**: rows of other subscriptions are untouched, and the seeked subscription is
    woken unless no row changed at all -/
theorem C10_wakes_cover_seek_time {db : Db} {now : Time} {sub : String} {T : Time} {o : TxOut (Nat × Nat)}
    (h : seekTime db now sub T = .ok o) :
    ∃ s, db.liveSubByName sub = some s ∧ SameUnwoken [s.id] db.dels o.db.dels ∧ (o.wakes = [s.id] ∨ o.db.dels = db.dels) := by
  obtain ⟨s, hs, rfl⟩ := seekTime_ok h
  refine ⟨s, hs, ?_, ?_⟩
  · refine (updateWhere_local ?_).trans (updateWhere_local ?_)
    all_goals
      intro d hp
      simp only [Bool.and_eq_true, beq_iff_eq] at hp
      exact hp.1.1.1
  · simp only
    split
    · exact Or.inl rfl
    · rename_i hz
      simp only [bne_iff_ne, ne_eq, Bool.or_eq_true, not_or, Decidable.not_not] at hz
      -- each count is taken on the table the earlier `UPDATE`s left: the last one is peeled off first
      exact .inr ((updateWhere_of_count_zero hz.2).trans (updateWhere_of_count_zero hz.1))

/-- **seek to a snapshot**: likewise -/
theorem C10_wakes_cover_seek_snapshot {db : Db} {now : Time} {sub snap : String} {o : TxOut (Nat × Nat)}
    (h : seekSnap db now sub snap = .ok o) :
    ∃ s, db.liveSubByName sub = some s ∧ SameUnwoken [s.id] db.dels o.db.dels ∧ (o.wakes = [s.id] ∨ o.db.dels = db.dels) := by
  obtain ⟨s, sn, hs, hsn, rfl⟩ := seekSnap_ok h
  refine ⟨s, hs, ?_, ?_⟩
  · refine ((updateWhere_local ?_).trans (updateWhere_local ?_)).trans
      (updateWhere_local ?_)
    all_goals
      intro d hp
      simp only [Bool.and_eq_true, beq_iff_eq] at hp
      exact hp.1.1.1
  · simp only
    split
    · exact Or.inl rfl
    · rename_i hz
      simp only [bne_iff_ne, ne_eq, Bool.or_eq_true, not_or, Decidable.not_not, Nat.add_eq_zero_iff] at hz
      exact .inr (((updateWhere_of_count_zero hz.2).trans (updateWhere_of_count_zero hz.1.2)).trans
        (updateWhere_of_count_zero hz.1.1))

end Mmmbbb

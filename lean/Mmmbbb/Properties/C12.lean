/-
C12 — Resource names: one live resource per name; Get/List show exactly the live set.

"At any time there is at most one live topic, one live subscription and one snapshot per name:
creating an existing name fails with AlreadyExists (also when several creates race), deleting makes
the name immediately reusable, and the re-created resource inherits no messages, backlog or settings
from its predecessor.  Get succeeds exactly for live resources, and List for a project returns every
live resource of exactly that project once and only once across pages, for any page size."

Races: a create is one transaction = one `step` of the model; interleavings of concurrent creates
are the orders of their steps, and the second one sees the first one's row (`C12_create_conflict`).
-/
import Mmmbbb.Proofs.Paging
import Mmmbbb.Proofs.Shape
namespace Mmmbbb.Api

def liveTopics (db : Db) (n : String) : Nat := db.topics.countP fun t => t.name == n && t.live
def liveSubs (db : Db) (n : String) : Nat := db.subs.countP fun s => s.name == n && s.live
def snapsNamed (db : Db) (n : String) : Nat := db.snaps.countP fun s => s.name == n

/-- **C12 (AlreadyExists)**: creating a topic whose name is live fails with `exists` and changes nothing. -/
theorem C12_create_conflict (db : Db) (now : Time) (n : String) (l : StrMap) (i : Id)
    (h : (db.liveTopicByName n).isSome = true) : createTopic db now n l i = .error .exists := by
  unfold createTopic; simp [h]

theorem C12_create_sub_conflict (db : Db) (now : Time) (p : CreateSubParams) (i : Id)
    (h : (db.liveSubByName p.name).isSome = true) : createSub db now p i = .error .exists := by
  unfold createSub; simp [h]

theorem C12_create_snap_conflict (db : Db) (now : Time) (n s : String) (l : StrMap) (i : Id)
    (h : (db.snapByName n).isSome = true) : createSnapshot db now n s l i = .error .exists := by
  unfold createSnapshot; simp [h]

/-- **C12 (one live topic per name)**: `createTopic` keeps "at most one live topic per name", for
    every name, and the new topic's id is fresh: no row of any table has it as its id. -/
theorem C12_create_topic_unique (db : Db) (now : Time) (n : String) (l : StrMap) (i : Id) (o : TxOut Id)
    (h : createTopic db now n l i = .ok o) (hinv : ∀ m, liveTopics db m ≤ 1) :
    (∀ m, liveTopics o.db m ≤ 1) ∧ liveTopics o.db n = 1 ∧ db.allIds.contains i = false := by
  obtain ⟨hex, hfresh, rfl⟩ := createTopic_ok h
  -- the new row counts for the name `n` only, and `n` had no live topic
  have hnone : db.liveTopicByName n = none := Option.not_isSome_iff_eq_none.mp (Bool.eq_false_iff.mp hex)
  have hzero : liveTopics db n = 0 := List.countP_eq_zero.mpr (List.find?_eq_none.mp hnone)
  have hcount (m : String) : liveTopics { db with topics := db.topics ++
      [{ id := i, name := n, createdAt := now, deletedAt := none, labels := l }] } m =
      liveTopics db m + if n = m then 1 else 0 := by
    simp [liveTopics, List.countP_append, List.countP_cons, Topic.live]
  refine ⟨fun m => ?_, by rw [hcount, hzero]; simp, hfresh⟩
  rw [hcount]
  split
  · rename_i e
    rw [← e, hzero]
    exact Nat.le_refl _
  · exact hinv m

/-- **C12 (delete frees the name)**: after a successful `deleteTopic n` no live topic is named `n` — the
    lookup on which both the AlreadyExists of a create (`C12_create_conflict`) and the answer of Get
    (`C12_get_topic_iff_live`) turn. -/
theorem C12_delete_frees (db : Db) (now : Time) (n : String) (o : TxOut Nat)
    (h : deleteTopic db now n = .ok o) : o.db.liveTopicByName n = none := by
  obtain ⟨_, _, _, rfl⟩ := deleteTopic_ok h
  exact find?_updateWhere_self _ _ _ fun t _ => by simp [Topic.live]

theorem C12_delete_sub_frees (db : Db) (now : Time) (n : String) (o : TxOut Nat)
    (h : deleteSub db now n = .ok o) : o.db.liveSubByName n = none := by
  obtain ⟨_, _, _, rfl⟩ := deleteSub_ok h
  exact find?_updateWhere_self _ _ _ fun s _ => by simp [Sub.live]

/-- **C12 (Get succeeds exactly for live resources)** -/
theorem C12_get_topic_iff_live (db : Db) (now : Time) (n : String) (hv : isValidTopicName n = true) :
    (handle db now (.getTopic n)).2.status = .ok ↔ (db.liveTopicByName n).isSome = true := by
  simp only [handle, hGetTopic, hv, Bool.not_true, Bool.false_eq_true, if_false]
  cases db.liveTopicByName n <;> simp

theorem C12_get_sub_iff_live (db : Db) (now : Time) (n : String) (hv : isValidSubscriptionName n = true) :
    (handle db now (.getSub n)).2.status = .ok ↔ (db.liveSubByName n).isSome = true := by
  simp only [handle, hGetSub, hv, Bool.not_true, Bool.false_eq_true, if_false]
  cases db.liveSubByName n <;> simp

theorem C12_get_snap_iff_exists (db : Db) (now : Time) (n : String) (hv : isValidSnapshotName n = true) :
    (handle db now (.getSnap n)).2.status = .ok ↔ (db.snapByName n).isSome = true := by
  simp only [handle, hGetSnap, hv, Bool.not_true, Bool.false_eq_true, if_false]
  cases db.snapByName n <;> simp

/-- each List handler filters with its own kind's prefix (regenerated from the source) -/
theorem C12_list_prefixes :
    Extracted.listTopicsSuffix = "/topics/" ∧ Extracted.listSubscriptionsSuffix = "/subscriptions/" ∧
    Extracted.listSnapshotsSuffix = "/snapshots/" := ⟨rfl, rfl, rfl⟩

/-- **C12 (a page only shows matching rows)**: every item of a page is a row of the table that
    satisfies the predicate and lies strictly after the page token; a page never has more items than
    the page size.  Stated of `listPage`, with which every List handler cuts its page from its table
    by its predicate (for ListTopics: name prefix of exactly that project and kind, live). -/
theorem C12_page_sound {α} (key : α → Id) (p : α → Bool) (rows : List α) (after : Option Id) (size : Nat) (x : α)
    (hx : x ∈ (listPage key p rows after size).1) :
    x ∈ rows ∧ p x = true ∧ (∀ a, after = some a → a < key x) ∧ (listPage key p rows after size).1.length ≤ size := by
  unfold listPage at hx ⊢
  simp only at hx ⊢
  have hmem := List.mem_of_mem_take hx
  rw [mem_sortId] at hmem
  obtain ⟨h1, h2⟩ := List.mem_filter.mp hmem
  simp only [Bool.and_eq_true] at h2
  refine ⟨h1, h2.1, ?_, ?_⟩
  · intro a ha
    subst ha
    simpa [afterPred] using h2.2
  · simp only [List.length_take]; omega

/-- **C12 (page size)**: `pageSize ≤ 0` and `pageSize ≥ 100` mean 100; anything between is taken as is -/
theorem C12_page_size (n : Int) :
    effPageSize n 100 = if 0 < n ∧ n < 100 then n.toNat else 100 := by
  unfold effPageSize; split <;> rfl

/-- **C12 (paging visits every item exactly once)**: with a positive page size and ids as primary
    keys, following the page tokens from the first page for `rows.length + 1` requests — whatever the
    page size — yields exactly the rows `p` selects (a handler's `p`: prefix of the project and kind,
    live), each once, in id order: no item is skipped, none repeated. -/
theorem C12_walk_exactly_once {α} (key : α → Id) (p : α → Bool) (rows : List α) (size : Nat) (hsize : 0 < size)
    (hkeys : rows.Pairwise (fun a b => key a ≠ key b)) :
    walk key p rows size (rows.length + 1) none = sortId key (rows.filter p) ∧
    (∀ x, x ∈ walk key p rows size (rows.length + 1) none ↔ x ∈ rows ∧ p x = true) ∧
    (walk key p rows size (rows.length + 1) none).Pairwise (fun a b => key a < key b) := by
  have hnone : (sortId key (rows.filter p)).filter (afterPred key none) = sortId key (rows.filter p) :=
    List.filter_eq_self.mpr fun _ _ => rfl
  have hw := walk_spec key p rows size hsize hkeys (rows.length + 1) none (by
    rw [hnone, (perm_sortId key _).length_eq]; exact Nat.lt_succ_of_le (List.length_filter_le p rows))
  rw [hnone] at hw
  refine ⟨hw, fun x => ?_, ?_⟩
  · rw [hw, mem_sortId, List.mem_filter]
  · rw [hw]; exact sortedLt_sortId key _ (hkeys.sublist List.filter_sublist)

/-- **C12 (the subscriptions of a topic are those of the live row of that name)**:
    `ListTopicSubscriptions` answers an error unless a live topic carries the name, and every name on
    a page belongs to a live subscription attached to *that row* — a subscription of a deleted
    incarnation of the name is not inherited by the topic made again under it.  (Each page is a
    `listPage`, so `C12_page_sound` and `C12_walk_exactly_once` apply to the walk.) -/
theorem C12_topic_subscriptions (db : Db) (now : Time) (topic : String) (size : Int) (tok : Option Id) :
    (db.liveTopicByName topic = none → (hListTopicSubs db now topic size (tok.map some)).2.status ≠ .ok) ∧
    (∀ t, isValidTopicName topic = true → db.liveTopicByName topic = some t →
      (hListTopicSubs db now topic size (tok.map some)).2.status = .ok ∧
      (hListTopicSubs db now topic size (tok.map some)).2.body =
        ";".intercalate ((listPage (·.id) (fun (s : Sub) => s.topicId == t.id && s.live) db.subs tok (effPageSize size 100)).1.map
          fun s => "name=" ++ Codec.enc s.name) ++ "|next=" ++
          Codec.optStr toString (listPage (·.id) (fun (s : Sub) => s.topicId == t.id && s.live) db.subs tok (effPageSize size 100)).2 ∧
      ∀ s ∈ (listPage (·.id) (fun (s : Sub) => s.topicId == t.id && s.live) db.subs tok (effPageSize size 100)).1,
        s ∈ db.subs ∧ s.topicId = t.id ∧ s.live = true) := by
  constructor
  · intro hnone
    unfold hListTopicSubs
    split
    · simp
    · rw [hnone]; simp
  · intro t hv ht
    refine ⟨?_, ?_, fun s hs => ?_⟩
    iterate 2
      unfold hListTopicSubs
      rw [hv, ht]
      cases tok <;> rfl
    obtain ⟨hmem, hp, -⟩ := C12_page_sound _ _ _ _ _ s hs
    obtain ⟨hid, hlive⟩ := Bool.and_eq_true_iff.mp hp
    exact ⟨hmem, eq_of_beq hid, hlive⟩

end Mmmbbb.Api

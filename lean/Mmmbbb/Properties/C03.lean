/-
C03 — Acknowledgement is final and idempotent.

"Once Acknowledge (or a streaming ack) has succeeded for an ack id, that message is never delivered
again on that subscription unless a later Seek explicitly rewinds it.  Acking twice, acking unknown,
expired or foreign ids, or mixing valid and stale ids in one request succeeds without side effects
on any other delivery, and a late nack or deadline change for an already-acked id does not
resurrect it."

Rows are addressed by primary key (`Db.delById`), as the SQL code does.  `Op.delsMonotone` excludes
exactly the seeks (the explicit rewind) and the three delivery prune jobs (which delete rows; their
effect on completed rows is the subject of C15).
-/
import Mmmbbb.Proofs.StepFrame
namespace Mmmbbb

/-- **C03 (ack always succeeds)**: whatever the ids — unknown, expired, foreign, duplicated, mixed. -/
theorem C03_ack_succeeds (db : Db) (now : Time) (ids : List Id) : ∃ o, ack db now ids = .ok o := by
  unfold ack; exact ⟨_, rfl⟩

/-- the predicate and the row update of `ack` -/
def ackPred (ids : List Id) (d : Delivery) : Bool := ids.contains d.id && d.completedAt.isNone
def ackRow (now : Time) (d : Delivery) : Delivery := { d with completedAt := some now }

/-- **C03 (frame of ack)**: `ack ids` rewrites exactly the rows whose id is listed and that are not
    yet completed, sets only their `completedAt`, and touches no other table. -/
theorem C03_ack_frame (db : Db) (now : Time) (ids : List Id) (o : TxOut Nat) (h : ack db now ids = .ok o) :
    o.db.dels = updateWhere (ackPred ids) (ackRow now) db.dels ∧
      o.db.topics = db.topics ∧ o.db.subs = db.subs ∧ o.db.msgs = db.msgs ∧ o.db.snaps = db.snaps := by
  unfold ack at h
  injection h with h; subst h
  exact ⟨rfl, rfl, rfl, rfl, rfl⟩

/-- rows an ack does not address — unknown or foreign ids name no row at all; already completed rows
    are not addressed either — are left exactly as they were -/
theorem C03_ack_no_side_effect (db : Db) (now : Time) (ids : List Id) (o : TxOut Nat)
    (h : ack db now ids = .ok o) (d : Delivery) (hd : d ∈ db.dels)
    (hn : ids.contains d.id = false ∨ d.completedAt.isSome = true) : d ∈ o.db.dels := by
  rw [(C03_ack_frame db now ids o h).1]
  refine mem_updateWhere_of_false hd ?_
  unfold ackPred
  rcases hn with hn | hn
  · rw [hn, Bool.false_and]
  · rw [Option.isNone_eq_false_iff.mpr hn, Bool.and_false]

/-- **C03 (idempotent)**: acknowledging the same ids again — at any later instant — changes nothing. -/
theorem C03_ack_idempotent (db : Db) (now now' : Time) (ids : List Id) (o o' : TxOut Nat)
    (h : ack db now ids = .ok o) (h' : ack o.db now' ids = .ok o') : o'.db = o.db := by
  unfold ack at h
  cases h
  unfold ack at h'
  cases h'
  -- the second `UPDATE` finds no row left: the first completed every row it matched
  exact congrArg (fun l => { db with dels := l })
    (updateWhere_idem (p := ackPred ids) (f := ackRow now) _ fun d _ => by simp [ackPred, ackRow])

/-- **C03 (no resurrection, one step)**: no operation other than a seek or a delivery prune job turns a
    completed delivery back into an outstanding one — in particular a late nack, a deadline change of
    either sign, the dead-letter sweep and pulls leave it completed. -/
theorem C03_no_resurrect (st : St) (op : Op) (hop : op.delsMonotone = true) (i : Id) (d : Delivery)
    (hd : st.db.delById i = some d) (hc : d.completedAt.isSome = true) :
    ∃ d', (step st op).1.db.delById i = some d' ∧ d'.completedAt.isSome = true := by
  obtain ⟨d', hd', r⟩ := step_mono st op hop i d hd
  exact ⟨d', hd', r.completed hc⟩

theorem step_delivered_open (st : St) (op : Op) (i : Id) (n : Nat) (d : Delivery)
    (hd : st.db.delById i = some d) (hc : d.completedAt.isSome = true) :
    (i, n) ∉ (step st op).2.delivered := by
  intro hmem
  obtain ⟨_, _, _, _, _, _, rfl⟩ := step_delivered_is_pull hmem
  obtain ⟨_, c, _, _, hcl, helig, _⟩ := step_pull_delivered hmem
  obtain rfl : d = c := Option.some.inj (hd.symm.trans hcl)
  rw [(Db.eligible_iff.mp helig).2.1] at hc
  cases hc

/-- **C03 (final)**: once a delivery is completed (acknowledged, dead-lettered or skipped by a
    seek), then along *every* continuation that contains no seek (and no delivery prune job),
    of any length, the delivery stays completed and no pull response contains it. -/
theorem C03_final (ops : List Op) : ∀ (st : St) (i : Id) (d : Delivery),
    (∀ op ∈ ops, op.delsMonotone = true) →
    st.db.delById i = some d → d.completedAt.isSome = true →
    (∃ d', (run st ops).db.delById i = some d' ∧ d'.completedAt.isSome = true) ∧
    ∀ out ∈ outs st ops, ∀ n, (i, n) ∉ out.delivered := by
  induction ops with
  | nil =>
    intro st i d _ hd hc
    exact ⟨⟨d, hd, hc⟩, fun out ho => by cases ho⟩
  | cons op r ih =>
    intro st i d hops hd hc
    have hop := hops op List.mem_cons_self
    obtain ⟨d', hd', hc'⟩ := C03_no_resurrect st op hop i d hd hc
    have := ih (step st op).1 i d' (fun o ho => hops o (List.mem_cons_of_mem _ ho)) hd' hc'
    refine ⟨this.1, ?_⟩
    intro out ho n
    simp only [outs, List.mem_cons] at ho
    rcases ho with rfl | ho
    · exact step_delivered_open st op i n d hd hc
    · exact this.2 out ho n

/-- an acknowledged id is completed right after the ack (so `C03_final` applies to it) -/
theorem C03_ack_completes (db : Db) (now : Time) (ids : List Id) (o : TxOut Nat) (h : ack db now ids = .ok o)
    (i : Id) (d : Delivery) (hi : ids.contains i = true) (hd : db.delById i = some d) :
    ∃ d', o.db.delById i = some d' ∧ d'.completedAt.isSome = true := by
  unfold ack at h
  cases h
  refine ⟨_, delById_updateWhere hd, ?_⟩
  split
  · rfl
  · -- not matched although listed: it was completed already
    rename_i hp
    rw [(delById_mem hd).2, hi] at hp
    exact Option.isSome_iff_ne_none.mpr (by simpa using hp)

/-- non-vacuity: a state with an outstanding delivery, acked, then nacked and modacked: stays completed -/
example :
    let d : Delivery := { id := 7, msgId := 1, subId := 2, publishedAt := 0, attemptAt := 0, lastAttemptedAt := none,
                          attempts := 1, completedAt := none, expiresAt := 100, notBefore := none }
    let st : St := { db := { dels := [d] }, now := 5 }
    let st' := run st [.ack [7], .nack [7] [] [], .delay [7] 0]
    (st'.db.delById 7).map (·.completedAt) = some (some 5) := by
  decide

end Mmmbbb

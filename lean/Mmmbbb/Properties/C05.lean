/-
C05 — Ordered delivery: same-key messages are never overtaken.

"On a subscription with message ordering enabled, a message with ordering key K is never delivered
while an earlier-published message with the same key K is still outstanding on that subscription
(not yet acknowledged, expired or dead-lettered); consequently same-key messages are first
delivered, and can only be acknowledged, in publish order.  This holds whatever else is published in
between, including messages with other keys or with no key."

The mechanism is a link: every keyed delivery on an ordered subscription points (`notBefore`) at
the newest unexpired delivery of the *same key* that existed when it was enqueued, and a pull on
an ordered subscription skips rows whose link target is neither completed nor expired.  The two
halves are proved below for every state and observation.  The full history statement fails in the
corners recorded in KNOWN_FINDINGS.txt (a seek re-opens an acknowledged predecessor, after which a
later same-key delivery can overtake it); `C05_full_statement` is kept visible and the proved part is
named `…_partial`: `C05_ordered_partial` proves the statement's conclusion for every history, of any
length, whose steps satisfy the refinement obligation `Ord.stepOk` (Model/Ordered.lean) — which the two
seeks and a change of the retention do not, which `Proofs/Refines.lean` proves operation by operation
for the others under the hypotheses stated there (the `C05_refines_*` below), and which the driver
evaluates on every step of every replayed history.

The later sections remove the run-time side for everything but the seeks: `C05_ordered_ties` drops the
clock assumption (`Ord2.stepOk2`: rows made in one transaction share their publish time), and
`C05_fragment`, `C05_fragment_dl` prove the property outright for every history inside the two
fragments of `Model/Fragment.lean`.
-/
import Mmmbbb.Proofs.Fragments
namespace Mmmbbb
open Mmmbbb.Ord Mmmbbb.Ord2

/-- **C05 (the pull honours the link)**: on an ordered subscription every delivery a pull hands out
    has no predecessor link, or its link target is completed or past its retention. -/
theorem C05_pull_respects_link {db : Db} {now : Time} {sub : String} {max maxBytes : Nat} {strict : Bool}
    {wait : Int} {obs : PullObs} {o : TxOut PullRes} {now' : Time}
    (h : pull db now sub max maxBytes strict wait obs = .ok (o, now'))
    (s : Sub) (hs : db.liveSubByName sub = some s) (hord : s.ordered = true) :
    ∀ x ∈ o.val.delivered, ∃ c, db.delById x.1 = some c ∧
      (c.notBefore = none ∨ ∃ p q, c.notBefore = some p ∧ db.delById p = some q ∧
        (q.completedAt.isSome = true ∨ q.expiresAt ≤ now)) := by
  obtain ⟨s', hs', hall⟩ := pull_post_delivered h
  obtain rfl : s = s' := Option.some.inj (hs.symm.trans hs')
  intro x hx
  obtain ⟨c, _, hc, helig, _⟩ := hall x hx
  exact ⟨c, hc, predDone_iff.mp ((Db.eligible_iff.mp helig).2.2.2.2 hord)⟩

/-- **C05 (the link is chosen among same-key deliveries)**: every row enqueued for a keyed message on
    an ordered subscription is linked to a delivery of that subscription that is not expired, whose
    message carries the same ordering key, and that is the newest such delivery — or to nothing when
    there is none.  Un-keyed messages and other keys in between are ignored. -/
theorem C05_link_choice (db : Db) (subs : List Sub) (m : Msg) (now : Time) (fwds : List Fwd) (rows : List Delivery)
    (h : mkRows db subs m now fwds = .ok rows) (k : String) (hk : m.orderKey = some k) (hne : k ≠ "") :
    ∀ r ∈ rows, ∃ s, s ∈ subs ∧ r.subId = s.id ∧ (s.ordered = true →
      match r.notBefore with
      | none => ∀ d ∈ db.dels, d.subId = s.id → now < d.expiresAt →
          ∀ dm, db.msgById d.msgId = some dm → dm.orderKey ≠ some k
      | some p => ∃ q dm, q ∈ db.dels ∧ q.id = p ∧ q.subId = s.id ∧ now < q.expiresAt ∧
          db.msgById q.msgId = some dm ∧ dm.orderKey = some k ∧
          ∀ d ∈ db.dels, d.subId = s.id → now < d.expiresAt →
            (∀ dm', db.msgById d.msgId = some dm' → dm'.orderKey = some k → d.publishedAt ≤ q.publishedAt)) := by
  obtain ⟨_, _, hall⟩ := mkRows_spec _ _ _ _ _ _ h
  intro r hr
  obtain ⟨s, f, hs, _, hpred, rfl⟩ := hall r hr
  refine ⟨s, hs, rfl, fun hord => ?_⟩
  have hmem : ∀ d ∈ db.dels, d.subId = s.id → now < d.expiresAt → ∀ dm, db.msgById d.msgId = some dm →
      dm.orderKey = some k → d ∈ predCands db s m now :=
    fun d hd hsub hexp dm hdm hkk => mem_predCands.mpr ⟨hd, hsub, hexp, dm, hdm, hkk.trans hk.symm⟩
  simp only [mkDelivery]
  rcases (predChoiceOk_spec hpred).1 ⟨hord, k, hk, hne⟩ with ⟨hnone, hnil⟩ | ⟨q, hq, hnb, hnew⟩
  · rw [hnone]
    intro d hd hsub hexp dm hdm hkk
    have := hmem d hd hsub hexp dm hdm hkk
    rw [hnil] at this; cases this
  · rw [hnb]
    obtain ⟨hqm, hqs, hqe, dm, hdm, hdk⟩ := mem_predCands.mp hq
    exact ⟨q, dm, hqm, rfl, hqs, hqe, hdm, hdk.trans hk, fun d hd hsub hexp dm' hdm' hkk =>
      (newestIn_iff.mp hnew d (hmem d hd hsub hexp dm' hdm' hkk)).1⟩

/-- the predecessor query as it stands in the source (regenerated on every run): newest publish time
    first, and among equal publish times the rows nobody waits on first -/
theorem C05_predecessor_query_order :
    Extracted.predecessorOrder = ["Desc:PublishedAt", "Asc:HasSuccessor"] := by decide

/-- **C05 (equal publish times)**: rows made in one transaction carry the same publish time (several
    deliveries dead-lettered by one sweep, one pull or one nack).  Among the newest same-key rows the
    link goes to one that nobody waits on yet, if there is one — the end of the chain, not its middle
    (a link to the middle lets the new row and the chain's end become deliverable together). -/
theorem C05_link_choice_equal_times (db : Db) (subs : List Sub) (m : Msg) (now : Time) (fwds : List Fwd) (rows : List Delivery)
    (h : mkRows db subs m now fwds = .ok rows) (k : String) (hk : m.orderKey = some k) (hne : k ≠ "") :
    ∀ r ∈ rows, ∃ s, s ∈ subs ∧ r.subId = s.id ∧ (s.ordered = true →
      ∀ p, r.notBefore = some p → ∃ q, q ∈ predCands db s m now ∧ q.id = p ∧
        ∀ d ∈ predCands db s m now, d.publishedAt = q.publishedAt → hasSucc db d = false → hasSucc db q = false) := by
  obtain ⟨_, _, hall⟩ := mkRows_spec _ _ _ _ _ _ h
  intro r hr
  obtain ⟨s, f, hs, _, hpred, rfl⟩ := hall r hr
  refine ⟨s, hs, rfl, fun hord p hp => ?_⟩
  rcases (predChoiceOk_spec hpred).1 ⟨hord, k, hk, hne⟩ with ⟨hnone, _⟩ | ⟨q, hq, hnb, hnew⟩
  · cases hnone.symm.trans hp
  · obtain rfl : q.id = p := Option.some.inj (hnb.symm.trans hp)
    refine ⟨q, hq, rfl, fun d hd heq hns => ?_⟩
    cases hq2 : hasSucc db q with
    | false => rfl
    | true => rw [(newestIn_iff.mp hnew d hd).2 heq hq2] at hns; cases hns

/-- **C05 (the second sort key picks the end of the chain)**: let the candidates of the predecessor
    query be `pre ++ [l]` in the order the rows were made, with publish times that do not decrease
    (rows are stamped with the clock), where `l`, the row made last, has nobody waiting on it and
    every earlier candidate that shares `l`'s publish time has somebody waiting on it (it is in the
    middle of the chain: the row made after it was linked behind it).  Then the only answer the query
    `ORDER BY published_at DESC, <somebody waits on it> LIMIT 1` may give is `l` — whatever the
    publish times are, equal or not.  Without the second key (the code before 652c205) any candidate
    sharing `l`'s publish time was an allowed answer. -/
theorem C05_tie_break_picks_chain_end (db : Db) (pre : List Delivery) (l q : Delivery)
    (hsorted : ∀ e ∈ pre, e.publishedAt ≤ l.publishedAt)
    (hmiddle : ∀ e ∈ pre, e.publishedAt = l.publishedAt → hasSucc db e = true)
    (hend : hasSucc db l = false)
    (hq : q ∈ pre ++ [l]) (hnew : newestIn db (pre ++ [l]) q = true) : q = l := by
  have hl := newestIn_iff.mp hnew l (by simp)
  rcases List.mem_append.mp hq with hp | hp
  · exfalso
    have heq : q.publishedAt = l.publishedAt := Int.le_antisymm (hsorted q hp) hl.1
    have := hl.2 heq.symm (hmiddle q hp heq)
    rw [hend] at this; cases this
  · simpa using hp

/-- the ordering property of a state (`Inv.ordered`, `Inv2.ordered`), with the ordering keys read off
    the messages table -/
theorem ordered_of_keys {db : Db} {now : Time}
    (H : ∀ s ∈ db.subs, s.live = true → s.ordered = true → ∀ d e, d ∈ db.dels → e ∈ db.dels → d.subId = s.id →
      e.subId = s.id → keyOf db d = keyOf db e → keyOf db d ≠ none → e.publishedAt < d.publishedAt →
      e.isOpen now = true → db.eligible s now d = false) :
    ∀ s ∈ db.subs, s.live = true → s.ordered = true → ∀ d ∈ db.dels, ∀ e ∈ db.dels,
      d.subId = s.id → e.subId = s.id →
      (∃ k, k ≠ "" ∧ (db.msgById d.msgId).bind (·.orderKey) = some k ∧ (db.msgById e.msgId).bind (·.orderKey) = some k) →
      e.publishedAt < d.publishedAt → e.isOpen now = true → db.eligible s now d = false := by
  intro s hs hlive hord d hd e he hds hes ⟨k, hk, h1, h2⟩ hlt hopen
  have k1 := keyOf_of_bind hk h1
  exact H s hs hlive hord d e hd he hds hes (k1.trans (keyOf_of_bind hk h2).symm) (by rw [k1]; simp) hlt hopen

/-- every step of the run from `st` satisfies the refinement obligation (with the clock assumption:
    a keyed row is stamped strictly later than the same-key rows its subscription already has) -/
def ordStepsOk : St → List Op → Bool
  | _, [] => true
  | st, op :: r =>
    Ord.stepOk true st.db st.now (step st op).1.db (step st op).1.now && ordStepsOk (step st op).1 r

theorem ordInv_run : ∀ (ops : List Op) (st : St), Ord.Inv st.db st.now → ordStepsOk st ops = true →
    Ord.Inv (run st ops).db (run st ops).now
  | [], _, h, _ => h
  | op :: r, st, h, hok => by
    simp only [ordStepsOk, Bool.and_eq_true] at hok
    exact ordInv_run r _ (h.step hok.1) hok.2

/-- **C05 (global, partial)**: after any history — of any length, with any interleaving of publishes
    (keyed, un-keyed, other keys), pulls by any number of pullers, acks, nacks, deadline changes,
    dead-lettering, prune and expiry jobs — every step of which refines the ordered-delivery steps,
    a keyed message of a live ordered subscription is not deliverable (no pull returns it) while an
    earlier-published message with the same key is outstanding on that subscription.
    Missing for the full statement: histories with a Seek (the recorded findings) or a change of the
    message retention, and the clock assumption when it fails (two same-key rows of one subscription
    stamped with the same instant). -/
theorem C05_ordered_partial (ops : List Op) (h : ordStepsOk {} ops = true) :
    let st := run {} ops
    ∀ s ∈ st.db.subs, s.live = true → s.ordered = true → ∀ d ∈ st.db.dels, ∀ e ∈ st.db.dels,
      d.subId = s.id → e.subId = s.id →
      (∃ k, k ≠ "" ∧ (st.db.msgById d.msgId).bind (·.orderKey) = some k ∧ (st.db.msgById e.msgId).bind (·.orderKey) = some k) →
      e.publishedAt < d.publishedAt → e.isOpen st.now = true → st.db.eligible s st.now d = false := by
  have hinv := ordInv_run ops {} (Ord.Inv.init 0) h
  exact ordered_of_keys hinv.ordered

/-- every step of the run from `st` satisfies the refinement obligation *without* the clock
    assumption (`Ord2.stepOk2`): rows are ordered by when they were made, the link of a new row
    satisfies the predecessor query with its second sort key, and a shrinking step that removes a keyed
    row takes the earlier rows of its key that share its publish time with it -/
def ordStepsOk2 : St → List Op → Bool
  | _, [] => true
  | st, op :: r =>
    Ord2.stepOk2 st.db st.now (step st op).1.db (step st op).1.now && ordStepsOk2 (step st op).1 r

theorem ordInv2_run : ∀ (ops : List Op) (st : St), Ord2.Inv2 st.db st.now → ordStepsOk2 st ops = true →
    Ord2.Inv2 (run st ops).db (run st ops).now
  | [], _, h, _ => h
  | op :: r, st, h, hok => by
    simp only [ordStepsOk2, Bool.and_eq_true] at hok
    exact ordInv2_run r _ (h.step hok.1) hok.2

/-- **C05 (global, equal publish times included)**: the statement of `C05_ordered_partial` *without the
    clock assumption*.  Deliveries made in one transaction share their publish time — several
    deliveries dead-lettered by one sweep, one pull or one nack into an ordered subscription — and the
    repaired predecessor query (652c205: second sort key, rows nobody waits on first) is what keeps
    the chain intact there: after any history every step of which satisfies `Ord2.stepOk2`, a keyed
    message of a live ordered subscription is not deliverable while an earlier-published message with
    the same key is outstanding on that subscription.  The invariant (`Ord2.Inv2`, Proofs/Ordered2.lean)
    orders rows by when they were made, not by their stamps.
    Missing for the full statement: histories with a Seek (the recorded findings) or a change of the
    message retention. -/
theorem C05_ordered_ties (ops : List Op) (h : ordStepsOk2 {} ops = true) :
    let st := run {} ops
    ∀ s ∈ st.db.subs, s.live = true → s.ordered = true → ∀ d ∈ st.db.dels, ∀ e ∈ st.db.dels,
      d.subId = s.id → e.subId = s.id →
      (∃ k, k ≠ "" ∧ (st.db.msgById d.msgId).bind (·.orderKey) = some k ∧ (st.db.msgById e.msgId).bind (·.orderKey) = some k) →
      e.publishedAt < d.publishedAt → e.isOpen st.now = true → st.db.eligible s st.now d = false := by
  have hinv := ordInv2_run ops {} (Ord2.Inv2.init 0) h
  exact ordered_of_keys hinv.ordered

/-- consequently no pull of such a history returns the later message -/
theorem C05_ordered_partial_pull (ops : List Op) (h : ordStepsOk {} ops = true)
    {sub : String} {max maxBytes : Nat} {strict : Bool} {wait : Int} {obs : PullObs} {o : TxOut PullRes} {now' : Time}
    (hp : pull (run {} ops).db (run {} ops).now sub max maxBytes strict wait obs = .ok (o, now'))
    (s : Sub) (hs : (run {} ops).db.liveSubByName sub = some s) (hord : s.ordered = true) :
    ∀ x ∈ o.val.delivered, ∀ d, (run {} ops).db.delById x.1 = some d →
      ∀ e ∈ (run {} ops).db.dels, e.subId = s.id →
      (∃ k, k ≠ "" ∧ ((run {} ops).db.msgById d.msgId).bind (·.orderKey) = some k ∧
        ((run {} ops).db.msgById e.msgId).bind (·.orderKey) = some k) →
      e.publishedAt < d.publishedAt → e.isOpen (run {} ops).now = false := by
  intro x hx d hd e he hes hkey hlt
  obtain ⟨s', hs', hall⟩ := pull_post_delivered hp
  obtain rfl : s = s' := Option.some.inj (hs.symm.trans hs')
  obtain ⟨c, _, hc, helig, _⟩ := hall x hx
  obtain rfl : d = c := Option.some.inj (hd.symm.trans hc)
  obtain ⟨hsm, hlive⟩ := liveSubByName_mem hs
  cases hopen : e.isOpen (run {} ops).now with
  | false => rfl
  | true =>
    -- eligibility in the table whose subscription expiry was refreshed is eligibility in the table
    have : (run {} ops).db.eligible s (run {} ops).now d = true := helig
    rw [C05_ordered_partial ops h s hsm hlive hord d (delById_mem hd).1 e he (Db.eligible_iff.mp helig).1 hes hkey hlt hopen] at this
    cases this

theorem C05_refines_advance (st : St) (d : Int) (hd : 0 ≤ d) :
    Ord.stepOk true st.db st.now (step st (.advance d)).1.db (step st (.advance d)).1.now = true :=
  (advance_quiet hd).refines

/-- an operation that fails (or otherwise leaves the state as it was) -/
theorem C05_refines_noop (st : St) (op : Op) (heq : (step st op).1 = st) :
    Ord.stepOk true st.db st.now (step st op).1.db (step st op).1.now = true := by
  rw [heq]
  exact (Quiet.refl st).refines

theorem C05_refines_createTopic (st : St) (n : String) (l : StrMap) (i : Id) :
    Ord.stepOk true st.db st.now (step st (.createTopic n l i)).1.db (step st (.createTopic n l i)).1.now = true :=
  createTopic_quiet.refines

theorem C05_refines_deleteTopic (st : St) (n : String) :
    Ord.stepOk true st.db st.now (step st (.deleteTopic n)).1.db (step st (.deleteTopic n)).1.now = true :=
  deleteTopic_quiet.refines

theorem C05_refines_deleteSnap (st : St) (n : String) :
    Ord.stepOk true st.db st.now (step st (.deleteSnap n)).1.db (step st (.deleteSnap n)).1.now = true :=
  deleteSnap_quiet.refines

/-- a deadline modification (positive, zero or negative) only moves attempt times -/
theorem C05_refines_delay (st : St) (ids : List Id) (Δ : Int) :
    Ord.stepOk true st.db st.now (step st (.delay ids Δ)).1.db (step st (.delay ids Δ)).1.now = true :=
  delay_quiet.refines

/-- an acknowledgement of deliveries that have been handed out (the only ack ids a client can hold) -/
theorem C05_refines_ack (st : St) (ids : List Id)
    (hdelivered : ∀ d ∈ st.db.dels, ids.contains d.id = true → 0 < d.attempts) :
    Ord.stepOk true st.db st.now (step st (.ack ids)).1.db (step st (.ack ids)).1.now = true :=
  (ack_quiet hdelivered).refines

/-- **the enqueueing of one message refines the ordered-delivery step** (`deliverAll`, used by publish
    and by every dead-letter forward): for a message that is in the table, onto live subscriptions with
    unique ids, at an instant later than the stamps of the rows already there (the clock assumption
    of `C05_ordered_partial`) -/
theorem C05_refines_enqueue (db db' : Db) (subs : List Sub) (m : Msg) (now : Time) (fwds : List Fwd) (w : List Id)
    (h : deliverAll db subs m now fwds = .ok (db', w))
    (hmsg : db.msgById m.id = some m)
    (hsubs : ∀ s ∈ subs, s ∈ db.subs ∧ s.live = true)
    (huniq : ∀ a ∈ db.subs, ∀ b ∈ db.subs, a.live = true → b.live = true → a.id = b.id → a = b)
    (hclock : ∀ d ∈ db.dels, d.publishedAt < now) :
    Ord.stepOk true db now db' now = true :=
  enqueue_stepOk h rfl rfl (fun _ _ => rfl) hmsg hsubs huniq hclock

/-- **publishing one message refines the ordered-delivery step**: `PublishMessage.Execute` inserts the
    message and enqueues it (`publishOne`); with referential integrity of the deliveries table, unique
    subscription ids and the clock assumption, the step from the table before to the table after
    satisfies `Ord.stepOk`.  The three hypotheses are clauses of `WF` (Proofs/Fragments.lean), the
    invariant behind `C05_fragment`. -/
theorem C05_refines_publish_one (db db' : Db) (t : Topic) (now : Time) (pm : PubMsg) (w : List Id)
    (h : publishOne db t now pm = .ok (db', w))
    (hfk : ∀ d ∈ db.dels, (db.msgById d.msgId).isSome = true)
    (huniq : ∀ a ∈ db.subs, ∀ b ∈ db.subs, a.live = true → b.live = true → a.id = b.id → a = b)
    (hclock : ∀ d ∈ db.dels, d.publishedAt < now) :
    Ord.stepOk true db now db' now = true := by
  obtain ⟨m, db1, rfl, hmsg, hk, hdel⟩ := publishOne_enqueue h hfk
  exact enqueue_stepOk (db0 := db) hdel rfl rfl hk hmsg (fun s hs => liveSubsOf_mem hs) huniq hclock

/-- **the enqueueing of one message satisfies the obligation of `C05_ordered_ties`** (`deliverAll`, used
    by publish and by every dead-letter forward) — with *no* clock assumption: the rows already in the
    table may carry the very instant the new rows are stamped with (several deliveries dead-lettered
    in one transaction).  What makes this true is the second sort key of the predecessor query, as it
    stands in the source (`C05_predecessor_query_order`, regenerated on every run). -/
theorem C05_refines2_enqueue (db db' : Db) (subs : List Sub) (m : Msg) (now : Time) (fwds : List Fwd) (w : List Id)
    (h : deliverAll db subs m now fwds = .ok (db', w))
    (hmsg : db.msgById m.id = some m)
    (hsubs : ∀ s ∈ subs, s ∈ db.subs ∧ s.live = true)
    (huniq : ∀ a ∈ db.subs, ∀ b ∈ db.subs, a.live = true → b.live = true → a.id = b.id → a = b)
    (hids : (db.dels.map (·.id)).Nodup)
    (hpast : ∀ d ∈ db.dels, d.publishedAt ≤ now) :
    Ord2.stepOk2 db now db' now = true :=
  enqueue_stepOk2 h rfl rfl (fun _ _ => rfl) hmsg hsubs huniq hids hpast

/-- **publishing one message satisfies the obligation of `C05_ordered_ties`** — with no clock
    assumption: `now` may be the very instant rows already in the table are stamped with -/
theorem C05_refines2_publish_one (db db' : Db) (t : Topic) (now : Time) (pm : PubMsg) (w : List Id)
    (h : publishOne db t now pm = .ok (db', w))
    (hfk : ∀ d ∈ db.dels, (db.msgById d.msgId).isSome = true)
    (huniq : ∀ a ∈ db.subs, ∀ b ∈ db.subs, a.live = true → b.live = true → a.id = b.id → a = b)
    (hids : (db.dels.map (·.id)).Nodup)
    (hpast : ∀ d ∈ db.dels, d.publishedAt ≤ now) :
    Ord2.stepOk2 db now db' now = true := by
  obtain ⟨m, db1, rfl, hmsg, hk, hdel⟩ := publishOne_enqueue h hfk
  exact enqueue_stepOk2 (db0 := db) hdel rfl rfl hk hmsg (fun s hs => liveSubsOf_mem hs) huniq hids hpast

theorem stepOk_of_shrink {st st' : St} {v : List Id} (h : st' = st ∨ Shrink st st' v) :
    Ord.stepOk true st.db st.now st'.db st'.now = true :=
  h.elim (fun e => e ▸ (Quiet.refl st).refines) (·.refines)

/-- **the job that removes acknowledged deliveries refines the shrinking step** (ids unique) -/
theorem C05_refines_pruneCompletedDeliveries (st : St) (a : Int) (mx : Nat) (v : List Id)
    (huniq : (st.db.dels.map (·.id)).Nodup) :
    Ord.stepOk true st.db st.now (step st (.pruneCompletedDeliveries a mx v)).1.db (step st (.pruneCompletedDeliveries a mx v)).1.now = true :=
  stepOk_of_shrink (pruneCompletedDeliveries_shrink huniq)

/-- **the job that removes deliveries past their retention refines the shrinking step** (ids unique) -/
theorem C05_refines_pruneExpiredDeliveries (st : St) (mx : Nat) (v : List Id)
    (huniq : (st.db.dels.map (·.id)).Nodup) :
    Ord.stepOk true st.db st.now (step st (.pruneExpiredDeliveries mx v)).1.db (step st (.pruneExpiredDeliveries mx v)).1.now = true :=
  stepOk_of_shrink (pruneExpiredDeliveries_shrink huniq)

/-- **the job that removes the deliveries of deleted subscriptions refines the shrinking step**: the
    rows it removes may be outstanding, but they belong to no live subscription -/
theorem C05_refines_pruneDeletedSubDeliveries (st : St) (a : Int) (mx : Nat) (v : List Id)
    (huniq : (st.db.dels.map (·.id)).Nodup)
    (huqA : ∀ a ∈ st.db.subs, ∀ b ∈ st.db.subs, a.id = b.id → a = b) :
    Ord.stepOk true st.db st.now (Mmmbbb.step st (.pruneDeletedSubDeliveries a mx v)).1.db
      (Mmmbbb.step st (.pruneDeletedSubDeliveries a mx v)).1.now = true :=
  stepOk_of_shrink (pruneDeletedSubDeliveries_shrink huniq huqA)

/-- **a pull on a topology without dead-letter policies refines the ordered-delivery step**: the
    candidates the model accepts are eligible rows of the table (on an ordered subscription: their
    predecessor is done), the loop leases a sub-list of them, nothing else changes but the
    subscription's expiry; an empty pull only waits and refreshes the expiry.  (Live subscription
    ids and delivery ids unique.) -/
theorem C05_refines_pull_no_dl (st : St) (sn : String) (mx mb : Nat) (strict : Bool) (wait : Int) (obs : PullObs)
    (hwait : 0 ≤ wait)
    (hnodl : ∀ s ∈ st.db.subs, ∀ d, s.dlTarget d = none)
    (huniqS : ∀ a ∈ st.db.subs, ∀ b ∈ st.db.subs, a.live = true → b.live = true → a.id = b.id → a = b)
    (huniqD : (st.db.dels.map (·.id)).Nodup) :
    Ord.stepOk true st.db st.now (step st (.pull sn mx mb strict wait obs)).1.db (step st (.pull sn mx mb strict wait obs)).1.now = true :=
  (pull_quiet_noDL hwait hnodl huniqS huniqD).refines

/-- **dead-lettering one delivery keeps the ordering invariant** — the single routine behind the three
    triggers (a pull that finds the attempts used up, a nack, the background sweep): the forward is an
    enqueueing (`C05_refines2_enqueue`: the forwarded rows are stamped with the instant of the
    transaction, which earlier forwards of the same transaction share), the retirement of the source
    row a completion of a delivery that has been handed out.  No clock assumption: any number of
    deliveries may be dead-lettered at one instant, one after the other, and `Ord2.Inv2` — hence ordered
    delivery on the dead-letter topic's ordered subscriptions — survives each of them. -/
theorem C05_deadLetter_keeps_order {db : Db} {d : Delivery} {dlt : Id} {now : Time} {fwds : List Fwd}
    {db' : Db} {w : List Id} (h : deadLetter db d dlt now fwds = .ok (db', w))
    (hinv : Inv2 db now)
    (huniq : ∀ a ∈ db.subs, ∀ b ∈ db.subs, a.live = true → b.live = true → a.id = b.id → a = b)
    (hd : d ∈ db.dels) (hatt : 0 < d.attempts) :
    Inv2 db' now :=
  (deadLetter_keeps_order h hinv huniq hd hatt).1

/-- **the dead-letter sweep keeps the ordering invariant**, whatever number of deliveries — of one key
    or several, into one ordered subscription or several — it forwards in its one transaction -/
theorem C05_sweep_keeps_order {db : Db} {now : Time} {mx : Nat} {victims : List Id} {fwds : List (Id × List Fwd)}
    {o : TxOut Nat} (h : dlSweep db now mx victims fwds = .ok o) (hinv : Inv2 db now)
    (huniq : ∀ a ∈ db.subs, ∀ b ∈ db.subs, a.live = true → b.live = true → a.id = b.id → a = b) :
    Inv2 o.db now :=
  (dlSweep_keeps_order h hinv huniq).1

/-- **a pull keeps the ordering invariant** — on any topology, dead-letter policies included, with no
    clock assumption: the expiry refresh, the dead-lettering of the candidates whose attempts are used
    up (each a forward and a retirement, `C05_deadLetter_keeps_order`), the leases of the others (each
    eligible: on an ordered subscription its predecessor is done, and stays done while the loop runs) -/
theorem C05_pull_keeps_order {db : Db} {now : Time} {sn : String} {mx mb : Nat} {strict : Bool} {wait : Int}
    {obs : PullObs} {o : TxOut PullRes} {now' : Time}
    (h : pull db now sn mx mb strict wait obs = .ok (o, now')) (hwait : 0 ≤ wait)
    (hinv : Inv2 db now)
    (huniq : ∀ a ∈ db.subs, ∀ b ∈ db.subs, a.live = true → b.live = true → a.id = b.id → a = b) :
    Inv2 o.db now' :=
  (pull_keeps_order h hwait hinv huniq).1

/-- **a nack keeps the ordering invariant** — on any topology, with no clock assumption: of the rows it
    names, those whose attempts are used up are dead-lettered (any number of them, in one transaction,
    at one instant), the others are rescheduled -/
theorem C05_nack_keeps_order {db : Db} {now : Time} {ids : List Id} {delays : List (Id × Int)}
    {fwds : List (Id × List Fwd)} {o : TxOut (Nat × Nat)}
    (h : nack db now ids delays fwds = .ok o) (hinv : Inv2 db now)
    (huniq : ∀ a ∈ db.subs, ∀ b ∈ db.subs, a.live = true → b.live = true → a.id = b.id → a = b) :
    Inv2 o.db now :=
  (nack_keeps_order h hinv huniq).1

/-- non-vacuity: an ordered subscription, two messages of key "k" in one request, the first is pulled
    and acknowledged, then the second is pulled — every step satisfies the obligation (and while the
    first is outstanding the model's pull is given, and accepts, only the first as candidate) -/
def exampleOrderedHistory : List Op := [
  .createTopic "projects/p/topics/t" [] 1,
  .createSub { name := "projects/p/subscriptions/o", topicName := "projects/p/topics/t", ttl := 1000000000000,
               messageTtl := 100000000000, ordered := true, labels := [], pushEndpoint := "", minBackoff := 0,
               maxBackoff := 0, filter := "", maxAttempts := 0, dlTopic := "" } 2,
  .publish "projects/p/topics/t" 1 [{ id := 10, payload := "a", plen := 1, attrs := [], orderKey := "k", fwds := [⟨2, 11, none⟩] },
                                    { id := 12, payload := "b", plen := 1, attrs := [], orderKey := "k", fwds := [⟨2, 13, some 11⟩] }],
  .pull "projects/p/subscriptions/o" 10 1000 false 1 { cands := [11], delays := [(11, 11000000000)], fwds := [] },
  .ack [11],
  .advance 5,
  .pull "projects/p/subscriptions/o" 10 1000 false 1 { cands := [13], delays := [(13, 11000000000)], fwds := [] }]

/-- What the examples below say of this history, proved together: the kernel then runs the history
    once for all of them (every `example` by its own evaluation would run it again). -/
theorem exampleOrderedHistory_runs :
    ordStepsOk {} exampleOrderedHistory = true ∧
    (outs {} exampleOrderedHistory).map (·.ok) = [true, true, true, true, true, true, true] ∧
    ordStepsOk {} (exampleOrderedHistory ++ [.seekTime "projects/p/subscriptions/o" (-1)]) = false := by
  decide +kernel

example : ordStepsOk {} exampleOrderedHistory = true := exampleOrderedHistory_runs.1
example : (outs {} exampleOrderedHistory).map (·.ok) = [true, true, true, true, true, true, true] := exampleOrderedHistory_runs.2.1
/-- a seek that re-opens the acknowledged first message does not satisfy the obligation -/
example : ordStepsOk {} (exampleOrderedHistory ++ [.seekTime "projects/p/subscriptions/o" (-1)]) = false := exampleOrderedHistory_runs.2.2

/-- non-vacuity of `C05_ordered_ties`, where the clock assumption fails: two messages of key "k" are
    pulled once from a subscription with a dead-letter policy of one attempt, their leases lapse, one
    sweep forwards both into the ordered subscription `o` of the dead-letter topic — the two forwarded
    rows carry the same publish time, the second is linked behind the first — and a third message of
    the key, published to the dead-letter topic directly, is linked behind the *second* of them -/
def exampleTieHistory : List Op := [
  .createTopic "projects/p/topics/t" [] 1,
  .createTopic "projects/p/topics/d" [] 2,
  .createSub { name := "projects/p/subscriptions/s", topicName := "projects/p/topics/t", ttl := 1000000000000,
               messageTtl := 100000000000, ordered := false, labels := [], pushEndpoint := "", minBackoff := 0,
               maxBackoff := 0, filter := "", maxAttempts := 1, dlTopic := "projects/p/topics/d" } 3,
  .createSub { name := "projects/p/subscriptions/o", topicName := "projects/p/topics/d", ttl := 1000000000000,
               messageTtl := 100000000000, ordered := true, labels := [], pushEndpoint := "", minBackoff := 0,
               maxBackoff := 0, filter := "", maxAttempts := 0, dlTopic := "" } 4,
  .publish "projects/p/topics/t" 1 [{ id := 10, payload := "a", plen := 1, attrs := [], orderKey := "k", fwds := [⟨3, 11, none⟩] }],
  .publish "projects/p/topics/t" 1 [{ id := 12, payload := "b", plen := 1, attrs := [], orderKey := "k", fwds := [⟨3, 13, none⟩] }],
  .pull "projects/p/subscriptions/s" 10 1000 false 1 { cands := [11, 13], delays := [(11, 11000000000), (13, 11000000000)], fwds := [] },
  .advance 20000000000,
  .dlSweep 10 [11, 13] [(11, [⟨4, 21, none⟩]), (13, [⟨4, 22, some 21⟩])],
  .advance 5,
  .publish "projects/p/topics/d" 1 [{ id := 30, payload := "c", plen := 1, attrs := [], orderKey := "k", fwds := [⟨4, 31, some 22⟩] }],
  .pull "projects/p/subscriptions/o" 10 1000 false 1 { cands := [21], delays := [(21, 11000000000)], fwds := [] }]

/-- (one run for the four examples below, as `exampleOrderedHistory_runs`) -/
theorem exampleTieHistory_runs :
    (outs {} exampleTieHistory).map (·.ok) = [true, true, true, true, true, true, true, true, true, true, true, true] ∧
    ordStepsOk2 {} exampleTieHistory = true ∧
    ordStepsOk {} exampleTieHistory = false ∧
    ((outs {} (exampleTieHistory.take 10 ++
      [.publish "projects/p/topics/d" 1 [{ id := 30, payload := "c", plen := 1, attrs := [], orderKey := "k", fwds := [⟨4, 31, some 21⟩] }]])).map (·.ok)).getLast? = some false := by
  decide +kernel

example : (outs {} exampleTieHistory).map (·.ok) = [true, true, true, true, true, true, true, true, true, true, true, true] := exampleTieHistory_runs.1
example : ordStepsOk2 {} exampleTieHistory = true := exampleTieHistory_runs.2.1
/-- the clock assumption of `C05_ordered_partial` does not hold on this history -/
example : ordStepsOk {} exampleTieHistory = false := exampleTieHistory_runs.2.2.1
/-- a link to the *first* of the two forwarded rows (what the query without its second sort key could
    answer) is not an observation the model accepts -/
example : ((outs {} (exampleTieHistory.take 10 ++
    [.publish "projects/p/topics/d" 1 [{ id := 30, payload := "c", plen := 1, attrs := [], orderKey := "k", fwds := [⟨4, 31, some 21⟩] }]])).map (·.ok)).getLast? = some false := exampleTieHistory_runs.2.2.2

/-- the statement of the property, for the record: in every state reachable by any history, on an
    ordered subscription no keyed delivery is eligible while an earlier same-key delivery is open -/
def C05_full_statement : Prop :=
  ∀ (ops : List Op), let st := run {} ops
    ∀ s ∈ st.db.subs, s.ordered = true → ∀ d ∈ st.db.dels, ∀ e ∈ st.db.dels,
      d.subId = s.id → e.subId = s.id →
      (∃ k, k ≠ "" ∧ (st.db.msgById d.msgId).bind (·.orderKey) = some k ∧ (st.db.msgById e.msgId).bind (·.orderKey) = some k) →
      e.publishedAt < d.publishedAt → e.isOpen st.now = true → st.db.eligible s st.now d = false

/-- the witness against the full statement (the recorded finding `overtake-seek-reopened-predecessor`,
    replayed on the real code by `corpus/directed-seek-reopens-predecessor.json`): two messages of key
    "k" are delivered and acknowledged in order; a Seek to the past re-opens both; a third message of
    the key is published (linked behind the second); the client acknowledges the second again by the
    ack id it still holds — the third is now eligible while the first is outstanding -/
def seekWitness : List Op := [
  .createTopic "projects/p/topics/t" [] 1,
  .createSub { name := "projects/p/subscriptions/o", topicName := "projects/p/topics/t", ttl := 1000000000000,
               messageTtl := 100000000000, ordered := true, labels := [], pushEndpoint := "", minBackoff := 0,
               maxBackoff := 0, filter := "", maxAttempts := 0, dlTopic := "" } 2,
  .publish "projects/p/topics/t" 1 [{ id := 10, payload := "a", plen := 1, attrs := [], orderKey := "k", fwds := [⟨2, 11, none⟩] }],
  .publish "projects/p/topics/t" 1 [{ id := 12, payload := "b", plen := 1, attrs := [], orderKey := "k", fwds := [⟨2, 13, some 11⟩] }],
  .pull "projects/p/subscriptions/o" 10 1000 false 1 { cands := [11], delays := [(11, 11000000000)], fwds := [] },
  .ack [11],
  .pull "projects/p/subscriptions/o" 10 1000 false 1 { cands := [13], delays := [(13, 11000000000)], fwds := [] },
  .ack [13],
  .seekTime "projects/p/subscriptions/o" (-1),
  .publish "projects/p/topics/t" 1 [{ id := 14, payload := "c", plen := 1, attrs := [], orderKey := "k", fwds := [⟨2, 15, some 13⟩] }],
  .ack [13]]

/-- does the state violate the ordering property (executable form of its negation) -/
def overtaken (st : St) : Bool :=
  st.db.subs.any fun s => s.ordered && st.db.dels.any fun d => st.db.dels.any fun e =>
    d.subId == s.id && e.subId == s.id &&
    (match (st.db.msgById d.msgId).bind (·.orderKey), (st.db.msgById e.msgId).bind (·.orderKey) with
     | some k1, some k2 => k1 == k2 && k1 != ""
     | _, _ => false) &&
    decide (e.publishedAt < d.publishedAt) && e.isOpen st.now && st.db.eligible s st.now d

/-- (one run for the example and for the theorem below, as `exampleOrderedHistory_runs`) -/
theorem seekWitness_runs :
    (outs {} seekWitness).map (·.ok) = [true, true, true, true, true, true, true, true, true, true, true] ∧
    overtaken (run {} seekWitness) = true := by
  decide +kernel

example : (outs {} seekWitness).map (·.ok) = [true, true, true, true, true, true, true, true, true, true, true] := seekWitness_runs.1

/-- **the full statement is false** (of the model, and — the same history — of the code): a Seek is all it
    takes.  `C05_fragment_dl` shows that on live subscriptions nothing else does (the statement as
    written also speaks of deleted subscriptions, whose rows `pruneDeletedSubDeliveries` removes in
    any order). -/
theorem C05_full_statement_false : ¬ C05_full_statement := by
  intro h
  have hv := seekWitness_runs.2
  unfold overtaken at hv
  simp only [List.any_eq_true, Bool.and_eq_true, beq_iff_eq, decide_eq_true_eq] at hv
  obtain ⟨s, hs, hord, d, hd, e, he, ⟨⟨⟨⟨hds, hes⟩, hkey⟩, hlt⟩, hopen⟩, hel⟩ := hv
  split at hkey
  · rename_i k1 k2 h1 h2
    simp only [Bool.and_eq_true, beq_iff_eq, bne_iff_ne, ne_eq] at hkey
    rw [h seekWitness s hs hord d hd e he hds hes ⟨k1, hkey.2, h1, hkey.1 ▸ h2⟩ hlt hopen] at hel
    cases hel
  · cases hkey

/-- **C05 on the fragment, outright**: for *every* history of operations inside `fragOk`
    (Model/Fragment.lean: everything but the seeks and the creation of a subscription with a
    dead-letter policy, the clock ticking at every publish; any number of subscriptions, keys, un-keyed
    messages in between, pulls of any size, acks in any order, lease and retention expiry, pruning),
    in the state it reaches no keyed delivery of an ordered subscription is eligible while an
    earlier-published delivery of the same key is outstanding.  No hypothesis is evaluated on the
    run: every operation of the fragment satisfies the refinement obligation (one lemma each in
    `Proofs/Refines.lean`, of which the `C05_refines_*` are readings), and the side conditions those
    lemmas need are invariants of the fragment (`WF`). -/
theorem C05_fragment (ops : List Op) (h : fragRun {} ops) :
    let st := Mmmbbb.run {} ops
    ∀ s ∈ st.db.subs, s.live = true → s.ordered = true → ∀ d ∈ st.db.dels, ∀ e ∈ st.db.dels,
      d.subId = s.id → e.subId = s.id →
      (∃ k, k ≠ "" ∧ (st.db.msgById d.msgId).bind (·.orderKey) = some k ∧ (st.db.msgById e.msgId).bind (·.orderKey) = some k) →
      e.publishedAt < d.publishedAt → e.isOpen st.now = true → st.db.eligible s st.now d = false :=
  ordered_of_keys (WF.run ops {} WF.init h).inv.ordered

/-- non-vacuity: a history of the fragment in which the ordering matters — two messages of key "k",
    published one after the other; the first is pulled and acknowledged, then the second is pulled -/
def exampleFragmentHistory : List Op := [
  .createTopic "projects/p/topics/t" [] 1,
  .createSub { name := "projects/p/subscriptions/o", topicName := "projects/p/topics/t", ttl := 1000000000000,
               messageTtl := 100000000000, ordered := true, labels := [], pushEndpoint := "", minBackoff := 0,
               maxBackoff := 0, filter := "", maxAttempts := 0, dlTopic := "" } 2,
  .publish "projects/p/topics/t" 1 [{ id := 10, payload := "a", plen := 1, attrs := [], orderKey := "k", fwds := [⟨2, 11, none⟩] }],
  .publish "projects/p/topics/t" 1 [{ id := 12, payload := "b", plen := 1, attrs := [], orderKey := "k", fwds := [⟨2, 13, some 11⟩] }],
  .pull "projects/p/subscriptions/o" 10 1000 false 1 { cands := [11], delays := [(11, 11000000000)], fwds := [] },
  .ack [11],
  .advance 5,
  .pull "projects/p/subscriptions/o" 10 1000 false 1 { cands := [13], delays := [(13, 11000000000)], fwds := [] }]

/-- (one run for the two examples below, as `exampleOrderedHistory_runs`) -/
theorem exampleFragmentHistory_runs :
    (outs {} exampleFragmentHistory).map (·.ok) = [true, true, true, true, true, true, true, true] ∧
    fragRun {} exampleFragmentHistory := by
  decide +kernel

example : (outs {} exampleFragmentHistory).map (·.ok) = [true, true, true, true, true, true, true, true] := exampleFragmentHistory_runs.1

example : fragRun {} exampleFragmentHistory := exampleFragmentHistory_runs.2

/-- **C05 outright, for every history without a Seek** (`fragOkDL`, Model/Fragment.lean): subscriptions
    with any configuration — dead-letter policies into ordered subscriptions, chains of them, filters —,
    publishes between which the clock need not move, pulls and nacks that dead-letter, sweeps of any
    batch size, and all six prune jobs (the three that delete delivery rows: tie-closed rounds): in the
    state such a history reaches no keyed delivery of an ordered subscription is eligible while an
    earlier-published delivery of the same key is outstanding.
    No clock assumption and no refinement hypothesis evaluated on the run: deliveries forwarded in one
    transaction share their publish time, and the second sort key of the predecessor query (652c205,
    regenerated from the source on every run) is what the proof of the enqueueing step uses.  What is
    outside: the two seeks (the recorded findings) and a change of the retention (not an operation of
    this state machine). -/
theorem C05_fragment_dl (ops : List Op) (h : fragRunDL {} ops) :
    let st := Mmmbbb.run {} ops
    ∀ s ∈ st.db.subs, s.live = true → s.ordered = true → ∀ d ∈ st.db.dels, ∀ e ∈ st.db.dels,
      d.subId = s.id → e.subId = s.id →
      (∃ k, k ≠ "" ∧ (st.db.msgById d.msgId).bind (·.orderKey) = some k ∧ (st.db.msgById e.msgId).bind (·.orderKey) = some k) →
      e.publishedAt < d.publishedAt → e.isOpen st.now = true → st.db.eligible s st.now d = false :=
  ordered_of_keys (WF2.run ops {} WF2.init h).inv.ordered

/-- (one run for the four examples below, as `exampleOrderedHistory_runs`) -/
theorem exampleTieHistory_fragment :
    fragRunDL {} exampleTieHistory ∧
    fragRunDL {} (exampleTieHistory ++ [.ack [21], .advance 5, .pruneCompletedDeliveries 0 10 [11, 13, 21]]) ∧
    ((outs {} (exampleTieHistory ++ [.ack [21], .advance 5, .pruneCompletedDeliveries 0 10 [11, 13, 21]])).map (·.ok)).getLast? = some true ∧
    Ord2.tieClosed (Mmmbbb.run {} exampleTieHistory).db [22] = false := by
  decide +kernel

/-- non-vacuity: the history of `exampleTieHistory` — two same-key deliveries forwarded by one sweep
    into an ordered subscription with the same publish time, a third message of the key published
    behind them — lies inside the fragment -/
example : fragRunDL {} exampleTieHistory := exampleTieHistory_fragment.1

/-- … continued: the first of the two forwarded deliveries is acknowledged and a round of the job that
    deletes acknowledged deliveries removes it (together with the two retired source rows): a tie-closed
    round, inside the fragment -/
example : fragRunDL {} (exampleTieHistory ++ [.ack [21], .advance 5, .pruneCompletedDeliveries 0 10 [11, 13, 21]]) :=
  exampleTieHistory_fragment.2.1
example : ((outs {} (exampleTieHistory ++ [.ack [21], .advance 5, .pruneCompletedDeliveries 0 10 [11, 13, 21]])).map (·.ok)).getLast? = some true :=
  exampleTieHistory_fragment.2.2.1
/-- a round that took the *second* forwarded delivery and left the first would not be tie-closed -/
example : Ord2.tieClosed (Mmmbbb.run {} exampleTieHistory).db [22] = false := exampleTieHistory_fragment.2.2.2

end Mmmbbb

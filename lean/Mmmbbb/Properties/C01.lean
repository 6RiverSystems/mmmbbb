/-
C01 — At-least-once delivery: an accepted message is never lost.

"Every message whose Publish call succeeded is delivered on every subscription that was attached to
the topic at publish time and whose filter the message satisfies, and it keeps being offered to
pulls (after each lease lapses) until it is acknowledged, its retention period ends, it is
dead-lettered, the subscription is deleted, or a seek moves past it.  Nothing else — other
subscriptions' acks, other messages, background maintenance, failed requests — can make it
disappear."
-/
import Mmmbbb.Proofs.StepFrame
import Mmmbbb.Proofs.Offered
namespace Mmmbbb

/-- **C01 (enqueued)**: a successful publish of one message appends — in the same transaction as the
    message row — fresh delivery rows such that: only live subscriptions of the topic whose filter
    accepts the message receive one, none receives two, and their number equals the number of
    accepting live subscriptions.  Every new row is outstanding (`completedAt = none`,
    `expiresAt = now + messageTtl`), due at `now + deliveryDelay`, and carries the message's id. -/
theorem C01_enqueued (db : Db) (t : Topic) (now : Time) (pm : PubMsg) (db' : Db) (w : List Id)
    (h : publishOne db t now pm = .ok (db', w)) :
    ∃ m rows, db'.msgs = db.msgs ++ [m] ∧ m.id = pm.id ∧ m.attrs = pm.attrs ∧ db'.dels = db.dels ++ rows ∧
      (rows.map (·.subId)).Nodup ∧
      rows.length = ((db.liveSubsOf t.id).filter (subAccepts · pm.attrs)).length ∧
      ∀ r ∈ rows, ∃ s, s ∈ db.liveSubsOf t.id ∧ subAccepts s pm.attrs = true ∧ r.subId = s.id ∧ r.msgId = pm.id ∧
        r.completedAt = none ∧ r.expiresAt = now + s.messageTtl ∧ r.attemptAt = now + s.deliveryDelay ∧
        r.attempts = 0 := by
  obtain ⟨_, m, rfl, h⟩ := publishOne_ok h
  obtain ⟨hnd, hlen, _, _, rows, hrows, rfl, _⟩ := deliverAll_ok h
  obtain ⟨hsubs, _, hall⟩ := mkRows_spec _ _ _ _ _ _ hrows
  refine ⟨_, rows, rfl, rfl, rfl, rfl, ?_, ?_, ?_⟩
  · rw [hsubs]; exact hnd
  · simpa using (congrArg List.length hsubs).trans hlen
  · intro r hr
    obtain ⟨s, f, hs, hacc, _, rfl⟩ := hall r hr
    exact ⟨s, hs, hacc, rfl, rfl, rfl, rfl, rfl, rfl⟩

/-- **C01 (rows never vanish)**: under every operation except seeks and the delivery prune jobs — in
    particular under acks and nacks of other deliveries, publishes, pulls on any subscription, the
    dead-letter sweep, subscription expiry, the message/subscription/topic prune jobs and every
    *failed* request — a delivery row keeps existing with the same message, subscription and
    retention end, and its attempt counter does not go down.  (One step; that the row is never
    un-completed is `C03_no_resurrect`.) -/
theorem C01_rows_persist (st : St) (op : Op) (hop : op.delsMonotone = true) (i : Id) (d : Delivery)
    (hd : st.db.delById i = some d) :
    ∃ d', (step st op).1.db.delById i = some d' ∧ d'.msgId = d.msgId ∧ d'.subId = d.subId ∧
      d'.expiresAt = d.expiresAt ∧ d.attempts ≤ d'.attempts := by
  obtain ⟨d', hd', r⟩ := step_mono st op hop i d hd
  exact ⟨d', hd', r.msg, r.sub, r.expires, r.attempts⟩

/-- **C01 (failed requests change nothing)**: a step whose response is an error leaves the whole
    state — all five tables and the clock — exactly as it was. -/
theorem C01_failed_request_no_change (st : St) (op : Op) (h : (step st op).2.ok = false) :
    (step st op).1 = st :=
  (step_err h).1

/-! **C01 (maintenance cannot lose an outstanding delivery)**: `C15_outstanding_survives` — a row that
is not completed, inside its retention and whose subscription is live is not a victim of any of the
three delivery prune jobs. -/

/-- **C01 (offered)**: a pull whose delivery query returned fewer rows than it asked for has considered
    every deliverable delivery of the subscription — not completed, inside its retention, due, (ordered)
    not blocked — and each of them was handed out in this response, or was due for dead-lettering
    (`C06_atomic` says what then happens), or its message row exists.  (The third alternative is meant
    to say "left out because the response would have exceeded the byte budget", but it leaves the byte
    count `b` free and so holds of any candidate; `pullLoop_fate` has the bound with the bytes the loop
    had collected.) -/
theorem C01_offered {db : Db} {now : Time} {sub : String} {max maxBytes : Nat} {strict : Bool}
    {wait : Int} {obs : PullObs} {o : TxOut PullRes} {now' : Time}
    (h : pull db now sub max maxBytes strict wait obs = .ok (o, now'))
    (hlt : obs.cands.length < max) :
    ∃ s, db.liveSubByName sub = some s ∧
      ∀ e ∈ db.dels, (refreshExpiry db s now).eligible s now e = true →
        ∃ c, c.id = e.id ∧ (refreshExpiry db s now).eligible s now c = true ∧
          (c.id ∈ o.val.delivered.map (·.1) ∨ (s.dlTarget c).isSome = true ∨
            ∃ m b, db.msgById c.msgId = some m ∧ maxBytes < b + m.plen) := by
  obtain ⟨s, cands, hs, hc, hok, hcase⟩ := pull_ok h
  obtain ⟨_, _, hall⟩ := candsOk_spec hok
  obtain ⟨hids, hlook⟩ := lookupAll_delById hc
  have hcomp := cands_complete hok (fun c hcm => (delById_mem (hlook c hcm)).1)
    (by rwa [← hids, List.length_map] at hlt)
  refine ⟨s, hs, fun e he hel => ?_⟩
  obtain ⟨c, hcm, hid⟩ := hcomp e he hel
  refine ⟨c, hid, hall c hcm, ?_⟩
  rcases hcase with ⟨hnil, _⟩ | ⟨_, _, acc, hl, rfl⟩
  · rw [hnil] at hcm; cases hcm
  · rcases pullLoop_fate hl c hcm with ⟨δ, hδ⟩ | hdl | ⟨m, hm, hb⟩
    · left
      simp only [List.map_map]
      exact List.mem_map.mpr ⟨(c, δ), hδ, rfl⟩
    · exact Or.inr (Or.inl hdl)
    · exact Or.inr (Or.inr ⟨m, acc.bytes, hm, hb⟩)

end Mmmbbb

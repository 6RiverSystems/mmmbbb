/-
C06 — Dead-lettering: bounded attempts, forwarded exactly once.

"With a dead-letter policy of N attempts, a message is delivered at most N times on the source
subscription; when it next becomes due (lease lapse seen by a pull, a nack, or the background sweep)
it is, in one step, retired from the source subscription and enqueued exactly once on every live
subscription of the dead-letter topic whose filter it satisfies, with its original id, payload and
attributes.  It is never both still deliverable on the source and forwarded, never forwarded twice,
and never forwarded before N deliveries or after it was acknowledged or expired."
-/
import Mmmbbb.Proofs.Lease
namespace Mmmbbb

/-- **C06 (at most N deliveries)**: a pull hands a row out only if it must not be dead-lettered: with
    a dead-letter policy of `N` attempts on the subscription, the attempt number reported is at most
    `N` — attempts `N+1, N+2, …` never happen. -/
theorem C06_at_most_N {db : Db} {now : Time} {sub : String} {max maxBytes : Nat} {strict : Bool}
    {wait : Int} {obs : PullObs} {o : TxOut PullRes} {now' : Time}
    (h : pull db now sub max maxBytes strict wait obs = .ok (o, now'))
    (s : Sub) (hs : db.liveSubByName sub = some s) (N : Int) (t : Id)
    (hN : s.maxAttempts = some N) (ht : s.dlTopicId = some t) (hpos : 0 < N) :
    ∀ x ∈ o.val.delivered, (x.2 : Int) ≤ N := by
  obtain ⟨s', _, D, hs', _, _, _, _, hD, hall⟩ := pull_spec h
  obtain rfl := Option.some.inj (hs.symm.trans hs')
  intro x hx
  rw [hD] at hx
  obtain ⟨y, hy, rfl⟩ := List.mem_map.mp hx
  -- `y` was not due for dead-lettering: its attempts so far are below `N`
  have : ¬ N ≤ (y.1.attempts : Int) := fun hle => by
    have := (hall y hy).1
    rw [(dlTarget_iff s y.1 t).mpr ⟨N, hN, ht, hpos, hle⟩] at this
    cases this
  show ((y.1.attempts + 1 : Nat) : Int) ≤ N
  omega

/-- **C06 (atomic move)**: a successful `deadLetter` of `d` — the single routine behind all three
    triggers — leaves the source row completed, appends only delivery rows, one per observed forward,
    each a fresh outstanding row for the *same message*, and touches no other table: the message is
    never both still deliverable on the source and forwarded. -/
theorem C06_atomic {db : Db} {d : Delivery} {dlt : Id} {now : Time} {fwds : List Fwd} {db' : Db} {w : List Id}
    (h : deadLetter db d dlt now fwds = .ok (db', w)) (hd : db.delById d.id = some d) :
    (∃ d', db'.delById d.id = some d' ∧ d'.completedAt = some now) ∧
    (∃ rows, db'.dels = markCompleted d.id now (db.dels ++ rows) ∧ rows.length = fwds.length ∧
      ∀ r ∈ rows, r.msgId = d.msgId ∧ r.completedAt = none ∧ r.attempts = 0) ∧
    SameOther db db' := by
  obtain ⟨db1, w1, hf, _, rfl, _⟩ := deadLetter_ok h
  have hrows : ∃ rows, db1 = { db with dels := db.dels ++ rows } ∧ rows.length = fwds.length ∧
      ∀ r ∈ rows, r.msgId = d.msgId ∧ r.completedAt = none ∧ r.attempts = 0 := by
    rcases dlForward_ok hf with ⟨rfl, rfl, _⟩ | ⟨t, m, _, hm, hda⟩
    · exact ⟨[], by simp, rfl, fun _ hr => nomatch hr⟩
    · obtain ⟨rows, hrows, rfl, _⟩ := deliverAll_shape hda
      obtain ⟨_, hids, hall⟩ := mkRows_spec _ _ _ _ _ _ hrows
      refine ⟨rows, rfl, by simpa using congrArg List.length hids, fun r hr => ?_⟩
      obtain ⟨s, f, _, _, _, rfl⟩ := hall r hr
      exact ⟨(msgById_mem hm).2, rfl, rfl⟩
  obtain ⟨rows, rfl, hlen, hall⟩ := hrows
  refine ⟨?_, ⟨rows, rfl, hlen, hall⟩, ⟨rfl, rfl, rfl, rfl⟩⟩
  exact ⟨_, delById_updateWhere (db := { db with dels := db.dels ++ rows }) (findDel_append_some hd), by simp⟩

/-- **C06 (not after done)**: the sweep only moves rows that are not completed, inside their retention
    and due, on live subscriptions with a full policy whose attempts are used up. -/
theorem C06_sweep_guard (db : Db) (now : Time) (mx : Nat) (victims : List Id) (fwds : List (Id × List Fwd))
    (o : TxOut Nat) (h : dlSweep db now mx victims fwds = .ok o) (v : Id) (hv : v ∈ victims) :
    ∃ d s n, db.delById v = some d ∧ db.subById d.subId = some s ∧ d.completedAt = none ∧ now < d.expiresAt ∧
      d.attemptAt ≤ now ∧ s.live = true ∧ s.maxAttempts = some n ∧ 0 < n ∧ n ≤ (d.attempts : Int) ∧ s.dlTopicId.isSome = true := by
  obtain ⟨d, hd, hp⟩ := limitOk_victims (dlSweep_ok h).1 v hv
  obtain ⟨hopen, hret, hdue, s, n, t, hs, hlive, hn, ht, hpos, hle⟩ := sweepCand_spec hp
  exact ⟨d, s, n, hd, hs, hopen, hret, hdue, hlive, hn, hpos, hle, by rw [ht]; rfl⟩

/-- **C06 (never after done, the nack path)**: a nack visits exactly the rows named by the request that
    are neither completed nor past their retention, and their number is the reported count.  (The pull
    path visits its candidates, all eligible: `C02_pull_sound`; the sweep the rows of `C06_sweep_guard`.
    That a delivery is forwarded at most once is not stated by any theorem: it is what these three
    guards give together with `C03_no_resurrect`, a completed row stays completed.) -/
theorem C06_nack_guard (db : Db) (now : Time) (ids : List Id) (delays : List (Id × Int)) (fwds : List (Id × List Fwd))
    (o : TxOut (Nat × Nat)) (h : nack db now ids delays fwds = .ok o) :
    o.val.1 = (sortById (db.dels.filter fun d => ids.contains d.id && d.isOpen now)).length ∧
    ∀ d ∈ sortById (db.dels.filter fun d => ids.contains d.id && d.isOpen now),
      d ∈ db.dels ∧ d.id ∈ ids ∧ d.completedAt = none ∧ now < d.expiresAt := by
  obtain ⟨_, _, rfl, _, rfl⟩ := nack_ok h
  refine ⟨rfl, fun d hd => ?_⟩
  obtain ⟨h1, h2⟩ := List.mem_filter.mp ((perm_sortById _).mem_iff.mp hd)
  simp only [Bool.and_eq_true, List.contains_iff_mem, Delivery.isOpen_iff] at h2
  exact ⟨h1, h2.1, h2.2.1, h2.2.2⟩

end Mmmbbb

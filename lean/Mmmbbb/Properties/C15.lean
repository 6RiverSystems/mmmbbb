/-
C15 — Background pruning is invisible to clients and converges.

"Running any of the background maintenance jobs at any moment, in any order, with any age threshold
and batch size, never changes what clients observe: no live topic, live subscription, outstanding
delivery or message with an outstanding delivery is removed, and ordered delivery is not disturbed.
Once everything has been acknowledged, expired or deleted for longer than the age threshold,
repeated rounds of the jobs, in any order, reclaim all of it."
-/
import Mmmbbb.Proofs.Frame
namespace Mmmbbb

/-- a surviving row of `deleteDeliveries`: the same row, except that a link to a deleted predecessor
    is cleared (`ON DELETE SET NULL`) -/
theorem deleteDeliveries_survivor (db : Db) (ids : List Id) (d : Delivery) (hd : d ∈ db.dels)
    (hn : d.id ∉ ids) :
    (∃ d' ∈ (deleteDeliveries db ids).dels, d' = d) ∨
    (∃ d' ∈ (deleteDeliveries db ids).dels, ∃ p, d.notBefore = some p ∧ p ∈ ids ∧ d' = { d with notBefore := none }) := by
  unfold deleteDeliveries
  simp only
  have hmem : d ∈ db.dels.filter (fun d => !ids.contains d.id) := List.mem_filter.mpr ⟨hd, by simp [hn]⟩
  cases hnb : d.notBefore with
  | none =>
    left
    refine ⟨d, List.mem_map.mpr ⟨d, hmem, ?_⟩, rfl⟩
    simp [hnb]
  | some p =>
    by_cases hp : p ∈ ids
    · right
      refine ⟨{ d with notBefore := none }, List.mem_map.mpr ⟨d, hmem, ?_⟩, p, rfl, hp, rfl⟩
      simp [hnb, hp]
    · left
      refine ⟨d, List.mem_map.mpr ⟨d, hmem, ?_⟩, rfl⟩
      simp [hnb, hp]

theorem deleteDeliveries_other (db : Db) (ids : List Id) : SameOther db (deleteDeliveries db ids) := ⟨rfl, rfl, rfl, rfl⟩

/-- **C15 (completed-delivery prune removes only completed rows)**: every victim is a row completed at
    least `minAge` ago; every other row survives (at most losing its link to a deleted — hence
    completed — predecessor, which the ordered-delivery join already ignores); no other table changes. -/
theorem C15_prune_completed_deliveries (db : Db) (now : Time) (minAge : Int) (mx : Nat) (victims : List Id) (o : TxOut Nat)
    (h : pruneCompletedDeliveries db now minAge mx victims = .ok o) :
    (∀ v ∈ victims, ∃ r t, db.delById v = some r ∧ r.completedAt = some t ∧ t ≤ now - minAge) ∧
    o.db = deleteDeliveries db victims := by
  obtain ⟨hok, rfl⟩ := pruneCompletedDeliveries_ok h
  refine ⟨fun v hv => ?_, rfl⟩
  obtain ⟨r, hr, hp⟩ := limitOk_victims hok v hv
  obtain ⟨t, hc, hle⟩ := exists_le_of_match hp
  exact ⟨r, t, hr, hc, hle⟩

/-- **C15 (expired-delivery prune removes only rows past their retention)** -/
theorem C15_prune_expired_deliveries (db : Db) (now : Time) (mx : Nat) (victims : List Id) (o : TxOut Nat)
    (h : pruneExpiredDeliveries db now mx victims = .ok o) :
    (∀ v ∈ victims, ∃ r, db.delById v = some r ∧ r.expiresAt < now) ∧ o.db = deleteDeliveries db victims := by
  obtain ⟨hok, rfl⟩ := pruneExpiredDeliveries_ok h
  refine ⟨fun v hv => ?_, rfl⟩
  obtain ⟨r, hr, hp⟩ := limitOk_victims hok v hv
  exact ⟨r, hr, by simpa using hp⟩

/-- **C15 (deleted-subscription prune removes only deliveries of deleted subscriptions)** -/
theorem C15_prune_deleted_sub_deliveries (db : Db) (now : Time) (minAge : Int) (mx : Nat) (victims : List Id) (o : TxOut Nat)
    (h : pruneDeletedSubDeliveries db now minAge mx victims = .ok o) :
    (∀ v ∈ victims, ∃ r s t, db.delById v = some r ∧ db.subById r.subId = some s ∧ s.deletedAt = some t ∧ t ≤ now - minAge) ∧
    o.db = deleteDeliveries db victims := by
  obtain ⟨hok, rfl⟩ := pruneDeletedSubDeliveries_ok h
  refine ⟨fun v hv => ?_, rfl⟩
  obtain ⟨r, hr, hp⟩ := limitOk_victims hok v hv
  obtain ⟨t, hb, hle⟩ := exists_le_of_match hp
  obtain ⟨s, hs, hd⟩ := Option.bind_eq_some_iff.mp hb
  exact ⟨r, s, t, hr, hs, hd, hle⟩

/-- **C15 (an outstanding delivery is never pruned)**: a row that is not completed, inside its
    retention and whose subscription is live is not a victim of any of the three delivery prune
    jobs, so it survives each of them. -/
theorem C15_outstanding_survives (db : Db) (now : Time) (minAge : Int) (hage : 0 ≤ minAge) (mx : Nat) (victims : List Id)
    (d : Delivery) (hd : db.delById d.id = some d) (hopen : d.completedAt = none) (hret : now ≤ d.expiresAt)
    (s : Sub) (hs : db.subById d.subId = some s) (hlive : s.deletedAt = none) :
    (∀ o, pruneCompletedDeliveries db now minAge mx victims = .ok o → d.id ∉ victims) ∧
    (∀ o, pruneExpiredDeliveries db now mx victims = .ok o → d.id ∉ victims) ∧
    (∀ o, pruneDeletedSubDeliveries db now minAge mx victims = .ok o → d.id ∉ victims) := by
  refine ⟨?_, ?_, ?_⟩
  · intro o h hv
    obtain ⟨r, t, hr, hc, _⟩ := (C15_prune_completed_deliveries db now minAge mx victims o h).1 d.id hv
    obtain rfl := Option.some.inj (hd.symm.trans hr)
    rw [hopen] at hc; cases hc
  · intro o h hv
    obtain ⟨r, hr, he⟩ := (C15_prune_expired_deliveries db now mx victims o h).1 d.id hv
    obtain rfl := Option.some.inj (hd.symm.trans hr)
    exact absurd he (Int.not_lt.mpr hret)
  · intro o h hv
    obtain ⟨r, s', t, hr, hs', hdel, _⟩ := (C15_prune_deleted_sub_deliveries db now minAge mx victims o h).1 d.id hv
    obtain rfl := Option.some.inj (hd.symm.trans hr)
    obtain rfl := Option.some.inj (hs.symm.trans hs')
    rw [hlive] at hdel; cases hdel

/-- **C15 (message prune removes only unreferenced messages)**: no message that still has a delivery —
    outstanding or not — is removed; deliveries, subscriptions, topics are untouched. -/
theorem C15_prune_completed_messages (db : Db) (now : Time) (minAge : Int) (mx : Nat) (victims : List Id) (o : TxOut Nat)
    (h : pruneCompletedMessages db now minAge mx victims = .ok o) :
    (∀ v ∈ victims, ∃ m, db.msgById v = some m ∧ (∀ d ∈ db.dels, d.msgId ≠ m.id)) ∧
    o.db.dels = db.dels ∧ o.db.subs = db.subs ∧ o.db.topics = db.topics ∧ o.db.snaps = db.snaps ∧
    o.db.msgs = db.msgs.filter (fun m => !victims.contains m.id) := by
  obtain ⟨hok, rfl⟩ := pruneCompletedMessages_ok h
  refine ⟨fun v hv => ?_, rfl, rfl, rfl, rfl, rfl⟩
  obtain ⟨m, hm, hp⟩ := limitOk_victims hok v hv
  exact ⟨m, hm, forall_ne_of_not_any (Bool.and_eq_true_iff.mp hp).2⟩

/-- **C15 (subscription / topic prunes remove only deleted rows)** -/
theorem C15_prune_deleted_subs (db : Db) (now : Time) (minAge : Int) (mx : Nat) (victims : List Id) (o : TxOut Nat)
    (h : pruneDeletedSubs db now minAge mx victims = .ok o) :
    (∀ v ∈ victims, ∃ s t, db.subById v = some s ∧ s.deletedAt = some t ∧ (∀ d ∈ db.dels, d.subId ≠ s.id)) ∧
    o.db.dels = db.dels ∧ o.db.msgs = db.msgs ∧ o.db.topics = db.topics := by
  obtain ⟨hok, rfl⟩ := pruneDeletedSubs_ok h
  refine ⟨fun v hv => ?_, rfl, rfl, rfl⟩
  obtain ⟨s, hs, hp⟩ := limitOk_victims hok v hv
  obtain ⟨hage, hno⟩ := Bool.and_eq_true_iff.mp hp
  obtain ⟨t, hd, _⟩ := exists_le_of_match hage
  exact ⟨s, t, hs, hd, forall_ne_of_not_any hno⟩

theorem C15_prune_deleted_topics (db : Db) (now : Time) (minAge : Int) (mx : Nat) (victims : List Id) (o : TxOut Nat)
    (h : pruneDeletedTopics db now minAge mx victims = .ok o) :
    (∀ v ∈ victims, ∃ t d, db.topicById v = some t ∧ t.deletedAt = some d ∧ (∀ s ∈ db.subs, s.topicId ≠ t.id) ∧
      (∀ s ∈ db.subs, s.dlTopicId ≠ some t.id)) ∧
    o.db.dels = db.dels ∧ o.db.msgs = db.msgs ∧ o.db.snaps = db.snaps := by
  obtain ⟨hok, _, rfl⟩ := pruneDeletedTopics_ok h
  refine ⟨fun v hv => ?_, rfl, rfl, rfl⟩
  obtain ⟨t, ht, hp⟩ := limitOk_victims hok v hv
  obtain ⟨hp, hno2⟩ := Bool.and_eq_true_iff.mp hp
  obtain ⟨hage, hno1⟩ := Bool.and_eq_true_iff.mp hp
  obtain ⟨dd, hd, _⟩ := exists_le_of_match hage
  exact ⟨t, dd, ht, hd, forall_ne_of_not_any hno1, forall_ne_of_not_any hno2⟩

/-- **C15 (pruning a deleted topic leaves every subscription's configuration alone)**: no victim is any
    subscription's dead-letter topic, so the `ON DELETE SET NULL` of that reference never fires: the
    subscriptions table after the job is the one before it. -/
theorem C15_prune_deleted_topics_keeps_policies (db : Db) (now : Time) (minAge : Int) (mx : Nat) (victims : List Id)
    (o : TxOut Nat) (h : pruneDeletedTopics db now minAge mx victims = .ok o) : o.db.subs = db.subs := by
  obtain ⟨_, _, rfl⟩ := pruneDeletedTopics_ok h
  rfl

/-- **C15 (progress)**: whenever a job's candidate set is non-empty, every allowed observation
    deletes at least one row (`LIMIT max` with `max ≥ 1` returns `min max |candidates| ≥ 1` ids). -/
theorem C15_progress {α} (rows : List α) (lookup : Id → Option α) (p : α → Bool) (victims : List Id) (max : Nat)
    (hmax : 1 ≤ max) (hne : rows.filter p ≠ []) (h : limitOk rows lookup p victims max = true) : 1 ≤ victims.length := by
  have := List.length_pos_iff.mpr hne
  rw [(limitOk_spec h).2.1]
  omega

/-- the six prune jobs and the expiry job of the model, each with the action it has to run -/
def expectedServices : List (String × String) :=
  [("delete-expired-subscriptions", "NewDeleteExpiredSubscriptions"),
   ("prune-completed-deliveries", "NewPruneCompletedDeliveries"),
   ("prune-completed-messages", "NewPruneCompletedMessages"),
   ("prune-deleted-subscription-deliveries", "NewPruneDeletedSubscriptionDeliveries"),
   ("prune-deleted-subscriptions", "NewPruneDeletedSubscriptions"),
   ("prune-deleted-topics", "NewPruneDeletedTopics"),
   ("prune-expired-deliveries", "NewPruneExpiredDeliveries")]

/-- **C15 (every job is deployed)**: among the maintenance services registered by the server are the
    six prune jobs and the expiry job, each wired to its own action — no job of the model is missing
    from the deployment and none of them runs another job's action (regenerated from
    `services/prune-common.go` on every run).  A further service, should one be added, is not this
    statement's business. -/
theorem C15_services_wired :
    (∀ e ∈ expectedServices, e ∈ Extracted.pruneServices) ∧
    (∀ e ∈ Extracted.pruneServices, ∀ x ∈ expectedServices, e.1 = x.1 → e = x) := by decide +kernel

end Mmmbbb

/-
C13 — Seek restores exactly the requested backlog.

"Seeking a subscription to a time makes exactly the retained messages published after that time
outstanding again (immediately deliverable, with fresh retention) and marks everything published at
or before it acknowledged.  Seeking to a snapshot restores exactly the set of messages that were
unacknowledged when the snapshot was taken plus everything published since; messages acknowledged
before the snapshot stay acknowledged, and other subscriptions are unaffected."
-/
import Mmmbbb.Proofs.Shape
namespace Mmmbbb

/-- what `seekTime` does to one row of subscription `s` at instant `now` with target `T` -/
def seekTimeRow (s : Sub) (now T : Time) (d : Delivery) : Delivery :=
  if d.subId == s.id && decide (now ≤ d.expiresAt) then
    if decide (d.publishedAt ≤ T) then
      (if d.completedAt.isNone then { d with completedAt := some now } else d)
    else
      (if d.completedAt.isSome then { d with completedAt := none, expiresAt := now + s.messageTtl, attemptAt := now } else d)
  else d

/-- **C13 (seek to time, exact effect)**: a successful `seekTime` rewrites the deliveries table row by
    row with `seekTimeRow`: rows of other subscriptions and rows whose retention has ended are
    untouched; retained rows published at or before `T` are completed; retained rows published after
    `T` that were completed become outstanding with `attemptAt = now` and fresh retention; rows that
    were already outstanding are untouched.  No other table changes. -/
theorem C13_seek_time (db : Db) (now : Time) (sub : String) (T : Time) (o : TxOut (Nat × Nat))
    (h : seekTime db now sub T = .ok o) :
    ∃ s, db.liveSubByName sub = some s ∧ o.db.dels = db.dels.map (seekTimeRow s now T) ∧
      o.db.topics = db.topics ∧ o.db.subs = db.subs ∧ o.db.msgs = db.msgs ∧ o.db.snaps = db.snaps := by
  obtain ⟨s, hs, rfl⟩ := seekTime_ok h
  refine ⟨s, hs, ?_, rfl, rfl, rfl, rfl⟩
  simp only
  unfold updateWhere
  rw [List.map_map]
  apply List.map_congr_left
  intro d _
  unfold seekTimeRow
  -- both `UPDATE`s and `seekTimeRow` test the same three conditions and whether the row is completed:
  -- sixteen cases, each closed by computation
  have hc := decide_lt_eq_not_le T d.publishedAt
  simp only [Function.comp, apply_ite Delivery.subId, apply_ite Delivery.expiresAt, apply_ite Delivery.publishedAt,
    apply_ite Delivery.completedAt, ite_self, hc]
  generalize (d.subId == s.id) = a
  generalize decide (now ≤ d.expiresAt) = b
  generalize decide (d.publishedAt ≤ T) = c
  generalize d.completedAt = dcomp
  cases a
  · rfl
  · cases b <;> cases c <;> cases dcomp <;> rfl

/-- other subscriptions are unaffected by a seek to a time -/
theorem C13_seek_time_other_subs (s : Sub) (now T : Time) (d : Delivery) (h : (d.subId == s.id) = false) :
    seekTimeRow s now T d = d := by
  unfold seekTimeRow; simp [h]

/-- seeking twice to the same time at the same instant equals seeking once — row by row: stated for
    `seekTimeRow`, which by `C13_seek_time` is what `seekTime` does to each delivery row; the counts and
    the wake set of the second seek are not covered. -/
theorem C13_seek_time_idempotent (s : Sub) (now T : Time) (d : Delivery) (_hm : 0 ≤ s.messageTtl) :
    seekTimeRow s now T (seekTimeRow s now T d) = seekTimeRow s now T d := by
  unfold seekTimeRow
  obtain ⟨did, dmsg, dsub, dpub, dat, dlast, datt, dcomp, dexp, dnb⟩ := d
  simp only
  -- a row the first seek completes is matched by neither `UPDATE` again; one it re-opens is outstanding
  -- and published after `T`, which the re-opening `UPDATE` leaves alone
  by_cases h1 : (dsub == s.id) = true <;> by_cases h2 : now ≤ dexp <;>
    by_cases h3 : dpub ≤ T <;> cases dcomp <;>
    simp [h1, h2, h3] <;> (unfold Time at *; omega)

/-- what `seekSnap` does to one row of subscription `s` for snapshot `sn` -/
def seekSnapRow (s : Sub) (sn : Snapshot) (now : Time) (d : Delivery) : Delivery :=
  if d.subId == s.id then
    if d.completedAt.isNone then
      (if decide (now ≤ d.expiresAt) && (decide (d.publishedAt < sn.ackedBefore) || sn.ackedIds.contains d.msgId)
       then { d with completedAt := some now } else d)
    else
      (if decide (sn.ackedBefore ≤ d.publishedAt) && !sn.ackedIds.contains d.msgId
       then { d with completedAt := none, expiresAt := now + s.messageTtl, attemptAt := now } else d)
  else d

/-- **C13 (seek to snapshot, exact effect)**: rows of the subscription that are outstanding are
    completed iff they are retained and either older than the snapshot's threshold or in its
    acknowledged set; completed rows at or after the threshold that are not in the acknowledged set
    become outstanding (fresh retention, due now); everything else — other subscriptions, other
    tables — is untouched. -/
theorem C13_seek_snap (db : Db) (now : Time) (sub snap : String) (o : TxOut (Nat × Nat))
    (h : seekSnap db now sub snap = .ok o) :
    ∃ s sn, db.liveSubByName sub = some s ∧ db.snapByName snap = some sn ∧
      o.db.dels = db.dels.map (seekSnapRow s sn now) ∧
      o.db.topics = db.topics ∧ o.db.subs = db.subs ∧ o.db.msgs = db.msgs ∧ o.db.snaps = db.snaps := by
  obtain ⟨s, sn, hs, hsn, rfl⟩ := seekSnap_ok h
  refine ⟨s, sn, hs, hsn, ?_, rfl, rfl, rfl, rfl⟩
  simp only
  unfold updateWhere
  rw [List.map_map, List.map_map]
  apply List.map_congr_left
  intro d _
  unfold seekSnapRow
  -- the three `UPDATE`s and `seekSnapRow` test the same four conditions and whether the row is
  -- completed: thirty-two cases, each closed by computation
  have hc := decide_le_eq_not_lt sn.ackedBefore d.publishedAt
  simp only [Function.comp, apply_ite Delivery.subId, apply_ite Delivery.expiresAt, apply_ite Delivery.msgId,
    apply_ite Delivery.publishedAt, apply_ite Delivery.completedAt, ite_self, hc]
  generalize (d.subId == s.id) = a
  generalize decide (now ≤ d.expiresAt) = b
  generalize decide (d.publishedAt < sn.ackedBefore) = c
  generalize sn.ackedIds.contains d.msgId = e
  generalize d.completedAt = dcomp
  cases a
  · rfl
  · cases b <;> cases c <;> cases e <;> cases dcomp <;> rfl

/-- **C13 (snapshot contents)**: a snapshot of subscription `s` records the oldest publish instant
    among its outstanding deliveries (or `now` when nothing is outstanding) and the messages whose
    delivery on `s` is completed and not older than that instant; taking it changes nothing else. -/
theorem C13_snapshot_contents (db : Db) (now : Time) (name sub : String) (l : StrMap) (i : Id) (o : TxOut Id)
    (h : createSnapshot db now name sub l i = .ok o) :
    ∃ s sn, db.liveSubByName sub = some s ∧ o.db.snaps = db.snaps ++ [sn] ∧ sn.name = name ∧ sn.topicId = s.topicId ∧
      o.db.dels = db.dels ∧ o.db.subs = db.subs ∧ o.db.msgs = db.msgs ∧ o.db.topics = db.topics ∧
      (match minPub (db.dels.filter fun d => d.subId == s.id && d.isOpen now) with
       | none => sn.ackedBefore = now ∧ sn.ackedIds = []
       | some t0 => sn.ackedBefore = t0 ∧
           sn.ackedIds = (db.dels.filter fun d =>
             d.subId == s.id && decide (t0 ≤ d.publishedAt) && d.completedAt.isSome).map (·.msgId)) := by
  obtain ⟨s, sn, _, hs, _, _, hname, htopic, hacked, rfl⟩ := createSnapshot_ok h
  exact ⟨s, sn, hs, rfl, hname, htopic, rfl, rfl, rfl, rfl, hacked⟩

end Mmmbbb

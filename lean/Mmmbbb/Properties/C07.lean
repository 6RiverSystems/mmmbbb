/-
C07 — Subscription filters mean what the filter language says.

"For every syntactically valid filter and every attribute map, a filtered subscription receives a
published message iff the filter, read with the documented Pub/Sub semantics, is true of the
message's attributes.  Evaluation is a total, deterministic function of filter and attributes and
obeys the boolean laws (double negation, De Morgan, commutativity, parenthesisation)."

`Cond.eval` (Model/Filter.lean) follows `filter/evaluate.go`; `Sem` below is the documented
semantics written independently as a proposition.  All statements hold for every AST and every
attribute map — no size bound.
-/
import Mmmbbb.Model.Filter
import Mmmbbb.Model.Actions
namespace Mmmbbb.Filter

def Basic.Sem (a : Attrs) : Basic → Prop
  | .has n => ∃ v, Attrs.get? a n = some v
  | .value n .eq v => Attrs.get? a n = some v
  | .value n .ne v => ∃ x, Attrs.get? a n = some x ∧ x ≠ v
  | .hasPrefix n v => ∃ x, Attrs.get? a n = some x ∧ v.toList <+: x.toList

mutual
  def Cond.Sem (a : Attrs) : Cond → Prop
    | .mk t .none => t.Sem a
    | .mk t (.ands ts) => t.Sem a ∧ ts.SemAll a
    | .mk t (.ors ts) => t.Sem a ∨ ts.SemAny a
  def Terms.SemAll (a : Attrs) : Terms → Prop
    | .one t => t.Sem a
    | .cons t ts => t.Sem a ∧ ts.SemAll a
  def Terms.SemAny (a : Attrs) : Terms → Prop
    | .one t => t.Sem a
    | .cons t ts => t.Sem a ∨ ts.SemAny a
  def Term.Sem (a : Attrs) : Term → Prop
    | .basic false b => b.Sem a
    | .basic true b => ¬ b.Sem a
    | .sub false c => c.Sem a
    | .sub true c => ¬ c.Sem a
end

theorem Basic.eval_iff_Sem (a : Attrs) (b : Basic) : b.eval a = true ↔ b.Sem a := by
  cases b with
  | has n =>
    simp only [Basic.eval, Basic.Sem, Option.isSome_iff_exists]
  | value n op v =>
    cases op <;>
      (simp only [Basic.eval, Basic.Sem]
       cases Attrs.get? a n <;> simp)
  | hasPrefix n v =>
    simp only [Basic.eval, Basic.Sem, hasPrefixStr]
    cases Attrs.get? a n <;> simp [List.isPrefixOf_iff_prefix]

/-! ### the evaluator in boolean algebra

`Cond.eval` is written with the short-circuit `if`s of `evaluate.go`; every proof below uses it
through these equations instead. -/

theorem Cond.eval_ands (a : Attrs) (t : Term) (ts : Terms) :
    (Cond.mk t (.ands ts)).eval a = (t.eval a && ts.all a) := by
  simp [Cond.eval]

theorem Cond.eval_ors (a : Attrs) (t : Term) (ts : Terms) :
    (Cond.mk t (.ors ts)).eval a = (t.eval a || ts.any a) := by
  simp [Cond.eval]

theorem Terms.all_cons (a : Attrs) (t : Term) (ts : Terms) :
    (Terms.cons t ts).all a = (t.eval a && ts.all a) := by
  simp [Terms.all]

theorem Terms.any_cons (a : Attrs) (t : Term) (ts : Terms) :
    (Terms.cons t ts).any a = (t.eval a || ts.any a) := by
  simp [Terms.any]

mutual
  /-- **C07 (semantics)**: the evaluator returns `true` exactly when the documented semantics holds. -/
  theorem C07_sound_complete (c : Cond) (a : Attrs) : c.eval a = true ↔ c.Sem a :=
    match c with
    | .mk t .none => by
      simp only [Cond.eval, Cond.Sem, Term.eval_iff_Sem a t]
    | .mk t (.ands ts) => by
      simp only [Cond.eval_ands, Cond.Sem, Bool.and_eq_true, Term.eval_iff_Sem a t, Terms.all_iff_Sem a ts]
    | .mk t (.ors ts) => by
      simp only [Cond.eval_ors, Cond.Sem, Bool.or_eq_true, Term.eval_iff_Sem a t, Terms.any_iff_Sem a ts]
  theorem Terms.all_iff_Sem (a : Attrs) : ∀ ts : Terms, ts.all a = true ↔ ts.SemAll a
    | .one t => by
      simp only [Terms.all, Terms.SemAll, Term.eval_iff_Sem a t]
    | .cons t ts => by
      simp only [Terms.all_cons, Terms.SemAll, Bool.and_eq_true, Term.eval_iff_Sem a t, Terms.all_iff_Sem a ts]
  theorem Terms.any_iff_Sem (a : Attrs) : ∀ ts : Terms, ts.any a = true ↔ ts.SemAny a
    | .one t => by
      simp only [Terms.any, Terms.SemAny, Term.eval_iff_Sem a t]
    | .cons t ts => by
      simp only [Terms.any_cons, Terms.SemAny, Bool.or_eq_true, Term.eval_iff_Sem a t, Terms.any_iff_Sem a ts]
  theorem Term.eval_iff_Sem (a : Attrs) : ∀ t : Term, t.eval a = true ↔ t.Sem a
    | .basic false b => by
      simp [Term.eval, Term.Sem, Basic.eval_iff_Sem]
    | .basic true b => by
      simp [Term.eval, Term.Sem, ← Basic.eval_iff_Sem]
    | .sub false c => by
      simp [Term.eval, Term.Sem, C07_sound_complete c a]
    | .sub true c => by
      simp [Term.eval, Term.Sem, ← C07_sound_complete c a]
end

/-- **C07 (total, deterministic)**: evaluation is a function — exactly one result for every filter
    and attribute map (the error arms of the Go evaluator are unreachable for parsed filters: the
    AST type has no unpopulated nodes). -/
theorem C07_total_deterministic (c : Cond) (a : Attrs) : ∃ b : Bool, c.eval a = b ∧ ∀ b', c.eval a = b' → b' = b :=
  ⟨c.eval a, rfl, fun _ h => h.symm⟩

/-- parenthesisation: `( c )` evaluates like `c` -/
theorem C07_paren (a : Attrs) (c : Cond) : (Term.sub false c).eval a = c.eval a := by
  simp [Term.eval]

/-- double negation: `NOT (NOT (c))` evaluates like `c` -/
theorem C07_double_neg (a : Attrs) (c : Cond) :
    (Term.sub true (.mk (.sub true c) .none)).eval a = c.eval a := by
  simp [Term.eval, Cond.eval]

def negT : Term → Term
  | .basic n b => .basic (!n) b
  | .sub n c => .sub (!n) c

theorem negT_eval (a : Attrs) (t : Term) : (negT t).eval a = !(t.eval a) := by
  cases t <;> exact Bool.bne_not _ _

def mapNeg : Terms → Terms
  | .one t => .one (negT t)
  | .cons t ts => .cons (negT t) (mapNeg ts)

theorem all_mapNeg (a : Attrs) : ∀ ts : Terms, (mapNeg ts).all a = !(ts.any a)
  | .one t => by simp [mapNeg, Terms.all, Terms.any, negT_eval]
  | .cons t ts => by simp [mapNeg, Terms.all_cons, Terms.any_cons, negT_eval, all_mapNeg a ts]

theorem any_mapNeg (a : Attrs) : ∀ ts : Terms, (mapNeg ts).any a = !(ts.all a)
  | .one t => by simp [mapNeg, Terms.all, Terms.any, negT_eval]
  | .cons t ts => by simp [mapNeg, Terms.all_cons, Terms.any_cons, negT_eval, any_mapNeg a ts]

/-- De Morgan, n-ary: `NOT (t OR t₁ OR … )` = `NOT t AND NOT t₁ AND …` -/
theorem C07_de_morgan_or (a : Attrs) (t : Term) (ts : Terms) :
    (Term.sub true (.mk t (.ors ts))).eval a = (Cond.mk (negT t) (.ands (mapNeg ts))).eval a := by
  simp [Term.eval, Cond.eval_ors, Cond.eval_ands, negT_eval, all_mapNeg]

/-- De Morgan, n-ary: `NOT (t AND t₁ AND … )` = `NOT t OR NOT t₁ OR …` -/
theorem C07_de_morgan_and (a : Attrs) (t : Term) (ts : Terms) :
    (Term.sub true (.mk t (.ands ts))).eval a = (Cond.mk (negT t) (.ors (mapNeg ts))).eval a := by
  simp [Term.eval, Cond.eval_ors, Cond.eval_ands, negT_eval, any_mapNeg]

def Terms.toList : Terms → List Term
  | .one t => [t]
  | .cons t ts => t :: ts.toList

theorem Terms.all_eq (a : Attrs) : ∀ ts : Terms, ts.all a = ts.toList.all (·.eval a)
  | .one t => by simp [Terms.all, Terms.toList]
  | .cons t ts => by simp [Terms.all_cons, Terms.toList, Terms.all_eq a ts]

theorem Terms.any_eq (a : Attrs) : ∀ ts : Terms, ts.any a = ts.toList.any (·.eval a)
  | .one t => by simp [Terms.any, Terms.toList]
  | .cons t ts => by simp [Terms.any_cons, Terms.toList, Terms.any_eq a ts]

/-- all terms of a condition, first term included -/
def Cond.terms : Cond → List Term
  | .mk t .none => [t]
  | .mk t (.ands ts) => t :: ts.toList
  | .mk t (.ors ts) => t :: ts.toList

/-- AND is commutative: two AND-chains with the same terms in any order evaluate alike -/
theorem C07_and_comm (a : Attrs) (t t' : Term) (ts ts' : Terms)
    (h : (t :: ts.toList).Perm (t' :: ts'.toList)) :
    (Cond.mk t (.ands ts)).eval a = (Cond.mk t' (.ands ts')).eval a := by
  simp only [Cond.eval_ands, Terms.all_eq]
  exact h.all_eq (f := (·.eval a))

/-- OR is commutative -/
theorem C07_or_comm (a : Attrs) (t t' : Term) (ts ts' : Terms)
    (h : (t :: ts.toList).Perm (t' :: ts'.toList)) :
    (Cond.mk t (.ors ts)).eval a = (Cond.mk t' (.ors ts')).eval a := by
  simp only [Cond.eval_ors, Terms.any_eq]
  exact h.any_eq (f := (·.eval a))

/-- **C07 (delivery)**: for a subscription whose stored filter parses to `c`, `subAccepts` — the
    test `deliverAll` uses to decide which subscriptions get a delivery row — is exactly the
    documented semantics of `c` on the message's attributes. -/
theorem C07_delivery (s : Sub) (f : String) (c : Cond) (attrs : StrMap)
    (hf : s.filter = some f) (hne : f ≠ "") (hp : parse f = .ok c) :
    subAccepts s attrs = true ↔ c.Sem attrs := by
  unfold subAccepts
  rw [hf]
  have : (f == "") = false := by simpa using hne
  simp only [this, Bool.false_eq_true, if_false, hp]
  exact C07_sound_complete c attrs

/-- non-vacuity: `attributes:x AND NOT attributes.y = "v"` on two attribute maps -/
example :
    (Cond.mk (.basic false (.has "x")) (.ands (.one (.basic true (.value "y" .eq "v"))))).eval [("x", "1")] = true ∧
    (Cond.mk (.basic false (.has "x")) (.ands (.one (.basic true (.value "y" .eq "v"))))).eval [("x", "1"), ("y", "v")] = false := by
  decide

end Mmmbbb.Filter

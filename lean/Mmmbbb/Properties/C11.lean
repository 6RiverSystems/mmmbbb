/-
C11 — Streaming pull honours flow control and keeps flowing.

"On a streaming pull the number of messages sent but not yet acknowledged, nacked or expired never
exceeds the client's max outstanding messages, and their total size never exceeds max outstanding
bytes except for a single oversized message sent when nothing else is outstanding.  Whenever capacity
is freed - by an ack or nack on the stream or by an Acknowledge call made outside it - and
deliverable messages remain, the stream sends more promptly; it never stalls with capacity and
messages both available."

The model (Model/Stream.lean) is the bookkeeping shared by the streamer's goroutines; the theorems
hold for every sequence of events — every interleaving of the sender's loop with flow-control
messages, fetch results of any content, stream acks/nacks, outside acknowledgements and refreshes.
The limits are the largest the client has asked for so far (`hi`), i.e. the client's limits whenever
it does not shrink them mid-stream.
-/
import Mmmbbb.Model.Stream
import Mmmbbb.Proofs.Notify
namespace Mmmbbb.Stream

structure SInv (s : St) : Prop where
  hi_ge : s.fc.msgs ≤ s.hi.msgs ∧ s.fc.bytes ≤ s.hi.bytes
  count : (s.pending.length : Int) ≤ s.hi.msgs
  bytes : bytesOf s.pending ≤ s.hi.bytes ∨ s.pending.length ≤ 1
  out_sub : ∀ i ∈ s.out, i ∈ s.pending.map (·.1)
  budget : ∀ m b strict, s.budget = some (m, b, strict) →
    (m : Int) + s.pending.length ≤ s.hi.msgs ∧ b + bytesOf s.pending ≤ s.hi.bytes ∧ (strict = false → s.pending = []) ∧ 0 < b
  excl : s.budget ≠ none → s.waiting = false
  flow : s.waiting = true → s.token = false → ¬ (0 < s.fc.bytes - bytesOf s.pending ∧ 0 < s.fc.msgs - s.pending.length)
  /-- the reader's update of the map is the guarded one (Extracted.streamerReaderReleases) -/
  g : s.guarded = true
  /-- what the reader is about to release is not outstanding: an id sent again since the reader's
      snapshot has left `releasing` -/
  rel : ∀ i ∈ s.releasing, i ∉ s.out
  /-- the sender enters what it fetched into `pending` before it sends it (Extracted.streamerBooksBeforeSend) -/
  bf : s.bookFirst = true
  ub : s.unbooked = []
  /-- an entry of `pending` that is no longer outstanding is either about to be released by the reader
      or settled in the database with a notification for the refresh goroutine outstanding -/
  stale : ∀ x ∈ s.pending, x.1 ∉ s.out → x.1 ∈ s.releasing ∨ (x.1 ∈ s.done ∧ s.dirty = true)

theorem bytesOf_sublist {p q : List (Nat × Nat)} (h : p.Sublist q) : bytesOf p ≤ bytesOf q := by
  induction h with
  | slnil => exact Int.le_refl _
  | cons x _ ih | cons_cons x _ ih =>
    obtain ⟨a, b⟩ := x
    simp only [bytesOf]
    omega

theorem bytesOf_append (p q : List (Nat × Nat)) : bytesOf (p ++ q) = bytesOf p + bytesOf q := by
  induction p with
  | nil => simp [bytesOf]
  | cons x r ih =>
    obtain ⟨a, b⟩ := x
    simp only [List.cons_append, bytesOf, ih]
    omega

/-- every settling event shrinks `out` by this filter -/
theorem mem_without {l ids : List Nat} {i : Nat} :
    i ∈ l.filter (fun i => !ids.contains i) ↔ i ∈ l ∧ i ∉ ids := by
  simp [List.mem_filter]

theorem mem_removeIds_iff {p : List (Nat × Nat)} {ids : List Nat} {x : Nat × Nat} :
    x ∈ removeIds p ids ↔ x ∈ p ∧ x.1 ∉ ids := by
  simp [removeIds, List.mem_filter]

theorem insertAll_nil (p : List (Nat × Nat)) : insertAll p [] = p := by
  simp [insertAll, removeIds]

theorem mem_map_removeIds {p : List (Nat × Nat)} {ids : List Nat} {i : Nat}
    (h : i ∈ p.map (·.1)) (hn : i ∉ ids) : i ∈ (removeIds p ids).map (·.1) := by
  obtain ⟨x, hx, rfl⟩ := List.mem_map.mp h
  exact List.mem_map.mpr ⟨x, mem_removeIds_iff.mpr ⟨hx, hn⟩, rfl⟩

theorem removeIds_noop (p : List (Nat × Nat)) (g : List Nat) (h : p.any (fun x => g.contains x.1) = false) :
    removeIds p g = p := by
  unfold removeIds
  apply List.filter_eq_self.mpr
  intro x hx
  have := List.any_eq_false.mp h x hx
  simpa using this

theorem select_sublist (strict : Bool) (b : Int) (cands : List (Nat × Nat)) (i : Nat) (acc : Int) :
    (select strict b cands i acc).Sublist cands := by
  induction cands generalizing i acc with
  | nil => exact .slnil
  | cons x r ih =>
    obtain ⟨id, sz⟩ := x
    simp only [select]
    split
    · exact (ih ..).cons _
    · exact (ih ..).cons_cons _

theorem select_checked (b : Int) (cands : List (Nat × Nat)) (i : Nat) (acc : Int) (strict : Bool)
    (hs : strict = true ∨ 0 < i) :
    (acc ≤ b → acc + bytesOf (select strict b cands i acc) ≤ b) ∧ (b < acc → select strict b cands i acc = []) := by
  have hcond : (strict || decide (0 < i)) = true := by
    rcases hs with h | h <;> simp [h]
  induction cands generalizing i acc with
  | nil => simp [select, bytesOf]
  | cons x r ih =>
    obtain ⟨id, sz⟩ := x
    have next := fun acc => ih (i + 1) acc (Or.inr (Nat.succ_pos i)) (by simp)
    simp only [select, hcond, Bool.true_and]
    split
    · exact ⟨(next acc).1, (next acc).2⟩
    · rename_i hno
      have hfit : acc + (sz : Int) ≤ b := by simpa using hno
      refine ⟨fun _ => ?_, fun h => ?_⟩
      · have := (next (acc + sz)).1 hfit
        simp only [bytesOf]; omega
      · omega

theorem select_first (b : Int) (cands : List (Nat × Nat)) :
    bytesOf (select false b cands 0 0) ≤ b ∨ (select false b cands 0 0).length ≤ 1 := by
  cases cands with
  | nil => exact .inr (Nat.zero_le 1)
  | cons x r =>
    obtain ⟨id, sz⟩ := x
    have e : select false b ((id, sz) :: r) 0 0 = (id, sz) :: select false b r 1 sz := by simp [select]
    rw [e]
    by_cases hfit : (sz : Int) ≤ b
    · left
      have := (select_checked b r 1 sz false (Or.inr Nat.one_pos)).1 hfit
      simp only [bytesOf]
      omega
    · right
      simp [(select_checked b r 1 sz false (Or.inr Nat.one_pos)).2 (by omega)]

/-- what `applyResults` takes from the candidates of a fetch with budget `(m, b, strict)` -/
theorem select_fits (strict : Bool) {b : Int} (hb : 0 < b) (cands : List (Nat × Nat)) (m : Nat) :
    (select strict b (cands.take m) 0 0).length ≤ m ∧
    (bytesOf (select strict b (cands.take m) 0 0) ≤ b ∨ strict = false ∧ (select strict b (cands.take m) 0 0).length ≤ 1) := by
  refine ⟨Nat.le_trans (select_sublist ..).length_le (List.length_take_le ..), ?_⟩
  cases strict with
  | true =>
    have := (select_checked b (cands.take m) 0 0 true (Or.inl rfl)).1 (by omega)
    exact .inl (by omega)
  | false => exact (select_first b _).imp id (⟨rfl, ·⟩)

/-! ### the invariant, by concern

`SInv` speaks about three things that the events touch independently: the limits (`Cap`), the
sender's sleep and its wake token (`Sender`), and the streamer's book against the truth (`Book`).
Each is a predicate on the fields it reads, so an event that does not write them keeps it for free. -/

structure Cap (fc hi : Fc) (p : List (Nat × Nat)) (bud : Option (Nat × Int × Bool)) : Prop where
  hi_ge : fc.msgs ≤ hi.msgs ∧ fc.bytes ≤ hi.bytes
  count : (p.length : Int) ≤ hi.msgs
  bytes : bytesOf p ≤ hi.bytes ∨ p.length ≤ 1
  budget : ∀ m b strict, bud = some (m, b, strict) →
    (m : Int) + p.length ≤ hi.msgs ∧ b + bytesOf p ≤ hi.bytes ∧ (strict = false → p = []) ∧ 0 < b

structure Sender (bud : Option (Nat × Int × Bool)) (waiting token : Bool) (fc : Fc) (p : List (Nat × Nat)) : Prop where
  excl : bud ≠ none → waiting = false
  flow : waiting = true → token = false → ¬ (0 < fc.bytes - bytesOf p ∧ 0 < fc.msgs - p.length)

structure Book (p : List (Nat × Nat)) (out rls done : List Nat) (dirty : Bool) : Prop where
  out_sub : ∀ i ∈ out, i ∈ p.map (·.1)
  rel : ∀ i ∈ rls, i ∉ out
  stale : ∀ x ∈ p, x.1 ∉ out → x.1 ∈ rls ∨ (x.1 ∈ done ∧ dirty = true)

theorem SInv.cap {s : St} (h : SInv s) : Cap s.fc s.hi s.pending s.budget := ⟨h.hi_ge, h.count, h.bytes, h.budget⟩

theorem SInv.sender {s : St} (h : SInv s) : Sender s.budget s.waiting s.token s.fc s.pending := ⟨h.excl, h.flow⟩

theorem SInv.book {s : St} (h : SInv s) : Book s.pending s.out s.releasing s.done s.dirty := ⟨h.out_sub, h.rel, h.stale⟩

/-- the shape of the reader and of the sender, which no event changes -/
theorem SInv.shape {s : St} (h : SInv s) : s.guarded = true ∧ s.bookFirst = true ∧ s.unbooked = [] := ⟨h.g, h.bf, h.ub⟩

theorem SInv.of_parts {s : St} (c : Cap s.fc s.hi s.pending s.budget) (sd : Sender s.budget s.waiting s.token s.fc s.pending)
    (b : Book s.pending s.out s.releasing s.done s.dirty)
    (sh : s.guarded = true ∧ s.bookFirst = true ∧ s.unbooked = []) : SInv s :=
  ⟨c.hi_ge, c.count, c.bytes, b.out_sub, c.budget, sd.excl, sd.flow, sh.1, b.rel, sh.2.1, sh.2.2, b.stale⟩

theorem SInv.init : SInv {} :=
  .of_parts ⟨⟨by decide, by decide⟩, by decide, Or.inl (by decide), fun _ _ _ h => nomatch h⟩
    ⟨fun h => absurd rfl h, fun h => nomatch h⟩
    ⟨fun _ h => (nomatch h), fun _ h => (nomatch h), fun _ h => (nomatch h)⟩ ⟨rfl, rfl, rfl⟩

section
variable {fc hi : Fc} {p : List (Nat × Nat)} {bud : Option (Nat × Int × Bool)}

theorem Cap.mono (h : Cap fc hi p bud) {fc' hi' : Fc} {p' : List (Nat × Nat)} (hm : hi.msgs ≤ hi'.msgs)
    (hb : hi.bytes ≤ hi'.bytes) (hfc : fc'.msgs ≤ hi'.msgs ∧ fc'.bytes ≤ hi'.bytes) (hs : p'.Sublist p) :
    Cap fc' hi' p' bud := by
  have hl := hs.length_le
  have hp := bytesOf_sublist hs
  refine ⟨hfc, Int.le_trans (Int.le_trans (Int.ofNat_le.mpr hl) h.count) hm,
    h.bytes.imp (fun h1 => Int.le_trans (Int.le_trans hp h1) hb) (Nat.le_trans hl), fun m b strict hbud => ?_⟩
  obtain ⟨a1, a2, a3, a4⟩ := h.budget m b strict hbud
  exact ⟨by omega, by omega, fun hf => List.eq_nil_of_sublist_nil (a3 hf ▸ hs), a4⟩

theorem Cap.idle (h : Cap fc hi p bud) : Cap fc hi p none :=
  ⟨h.hi_ge, h.count, h.bytes, fun _ _ _ hb => nomatch hb⟩

theorem Cap.fetch (h : Cap fc hi p bud) {m : Nat} {b : Int} {strict : Bool} (hm : (m : Int) ≤ fc.msgs - p.length)
    (hb : b ≤ fc.bytes - bytesOf p) (hpos : 0 < b) (hs : strict = false → p = []) :
    Cap fc hi p (some (m, b, strict)) := by
  refine ⟨h.hi_ge, h.count, h.bytes, ?_⟩
  intro m' b' strict' hbud
  cases hbud
  have := h.hi_ge
  exact ⟨by omega, by omega, hs, hpos⟩

theorem Cap.remove (h : Cap fc hi p bud) (ids : List Nat) : Cap fc hi (removeIds p ids) bud :=
  h.mono (Int.le_refl _) (Int.le_refl _) h.hi_ge List.filter_sublist

theorem Cap.add {m : Nat} {b : Int} {strict : Bool} (h : Cap fc hi p (some (m, b, strict)))
    {sel : List (Nat × Nat)} (hl : sel.length ≤ m) (hb : bytesOf sel ≤ b ∨ strict = false ∧ sel.length ≤ 1) :
    Cap fc hi (p ++ sel) none := by
  obtain ⟨a1, a2, a3, a4⟩ := h.budget m b strict rfl
  refine ⟨h.hi_ge, ?_, ?_, fun _ _ _ hb => nomatch hb⟩
  · rw [List.length_append]; omega
  · rcases hb with hb | ⟨hs, hb⟩
    · left
      rw [bytesOf_append]
      omega
    · right
      rw [a3 hs]
      exact hb

end

section
variable {bud : Option (Nat × Int × Bool)} {w tok : Bool} {fc : Fc} {p : List (Nat × Nat)}

theorem Sender.awake (h : w = false) : Sender bud w tok fc p := by
  subst h
  exact ⟨fun _ => rfl, nofun⟩

theorem Sender.token (h : bud ≠ none → w = false) : Sender bud w true fc p := ⟨h, fun _ h => nomatch h⟩

theorem Sender.wait (h : ¬ (0 < fc.bytes - bytesOf p ∧ 0 < fc.msgs - p.length)) : Sender none true tok fc p :=
  ⟨fun h => absurd rfl h, fun _ _ => h⟩

theorem Sender.idle (h : Sender bud w tok fc p) : Sender none w tok fc p := ⟨fun h => absurd rfl h, h.flow⟩

/-- a refresh that drops something leaves a token; one that drops nothing changes nothing -/
theorem Sender.refresh (h : Sender bud w tok fc p) {g : List Nat} :
    Sender bud w (tok || p.any (fun x => g.contains x.1)) fc (removeIds p g) := by
  refine ⟨h.excl, fun hw ht => ?_⟩
  simp only [Bool.or_eq_false_iff] at ht
  rw [removeIds_noop _ _ ht.2]
  exact h.flow hw ht.1

end

section
variable {p : List (Nat × Nat)} {out rls done : List Nat} {dirty : Bool}

theorem Book.settle (h : Book p out rls done dirty) (ids : List Nat) :
    Book (removeIds p ids) (out.filter (fun i => !ids.contains i)) rls done dirty := by
  refine ⟨fun i hi => ?_, fun i hi ho => h.rel i hi (mem_without.mp ho).1, fun x hx hno => ?_⟩
  · obtain ⟨ho, hn⟩ := mem_without.mp hi
    exact mem_map_removeIds (h.out_sub i ho) hn
  · obtain ⟨hp, hn⟩ := mem_removeIds_iff.mp hx
    exact h.stale x hp (fun ho => hno (mem_without.mpr ⟨ho, hn⟩))

theorem Book.settleCommit (h : Book p out rls done dirty) (ids : List Nat) :
    Book p (out.filter (fun i => !ids.contains i)) (rls ++ ids.filter (fun i => (p.map (·.1)).contains i)) done dirty := by
  refine ⟨fun i hi => h.out_sub i (mem_without.mp hi).1, fun i hi ho => ?_, fun x hx hno => ?_⟩
  · obtain ⟨ho, hn⟩ := mem_without.mp ho
    rcases List.mem_append.mp hi with h1 | h1
    · exact h.rel i h1 ho
    · exact hn (List.mem_filter.mp h1).1
  · by_cases hi : x.1 ∈ ids
    · left
      refine List.mem_append.mpr (Or.inr (List.mem_filter.mpr ⟨hi, ?_⟩))
      exact List.contains_iff_mem.mpr (List.mem_map.mpr ⟨x, hx, rfl⟩)
    · exact (h.stale x hx (fun ho => hno (mem_without.mpr ⟨ho, hi⟩))).imp (fun hr => List.mem_append.mpr (Or.inl hr)) id

theorem Book.settleBook (h : Book p out rls done dirty) : Book (removeIds p rls) out [] done dirty := by
  refine ⟨fun i hi => mem_map_removeIds (h.out_sub i hi) (fun hr => h.rel i hr hi), fun _ hi => (nomatch hi), fun x hx hno => ?_⟩
  obtain ⟨hp, hn⟩ := mem_removeIds_iff.mp hx
  exact (h.stale x hp hno).imp (fun hr => absurd hr hn) id

theorem Book.extSettle (h : Book p out rls done dirty) (ids : List Nat) :
    Book p (out.filter (fun i => !ids.contains i)) rls (done ++ ids) true := by
  refine ⟨fun i hi => h.out_sub i (mem_without.mp hi).1, fun i hi ho => h.rel i hi (mem_without.mp ho).1, fun x hx hno => ?_⟩
  by_cases ho : x.1 ∈ out
  · have : x.1 ∈ ids := Decidable.byContradiction fun hn => hno (mem_without.mpr ⟨ho, hn⟩)
    exact Or.inr ⟨List.mem_append.mpr (Or.inr this), rfl⟩
  · exact (h.stale x hx ho).imp id (fun hr => ⟨List.mem_append.mpr (Or.inl hr.1), rfl⟩)

/-- what is settled in the database and not sent again has been dropped: the rest keeps the reader's excuse -/
theorem Book.refresh (h : Book p out rls done dirty) :
    Book (removeIds p (done.filter (fun i => !out.contains i))) out rls done false := by
  refine ⟨fun i hi => mem_map_removeIds (h.out_sub i hi) (fun hg => (mem_without.mp hg).2 hi), h.rel, fun x hx hno => ?_⟩
  obtain ⟨hp, hn⟩ := mem_removeIds_iff.mp hx
  exact (h.stale x hp hno).imp id (fun hr => absurd (mem_without.mpr ⟨hr.1, hno⟩) hn)

theorem Book.add (h : Book p out rls done dirty) {sel : List (Nat × Nat)} :
    Book (p ++ sel) (out ++ sel.map (·.1)) (rls.filter (fun i => !(sel.map (·.1)).contains i)) done dirty := by
  refine ⟨fun i hi => ?_, fun i hi ho => ?_, fun x hx hno => ?_⟩
  · rw [List.map_append]
    exact List.mem_append.mpr ((List.mem_append.mp hi).imp (h.out_sub i) id)
  · obtain ⟨hr, hn⟩ := mem_without.mp hi
    exact (List.mem_append.mp ho).elim (h.rel i hr) hn
  · have hn : x.1 ∉ sel.map (·.1) := fun ho => hno (List.mem_append.mpr (.inr ho))
    rcases List.mem_append.mp hx with h1 | h1
    · exact (h.stale x h1 (fun ho => hno (List.mem_append.mpr (.inl ho)))).imp (fun hr => mem_without.mpr ⟨hr, hn⟩) id
    · exact absurd (List.mem_map.mpr ⟨x, h1, rfl⟩) hn

end

theorem maxFc_ge (a b : Fc) : a.msgs ≤ (maxFc a b).msgs ∧ a.bytes ≤ (maxFc a b).bytes ∧
    b.msgs ≤ (maxFc a b).msgs ∧ b.bytes ≤ (maxFc a b).bytes := by
  simp only [maxFc]
  refine ⟨?_, ?_, ?_, ?_⟩ <;> split <;> omega

theorem SInv.step {s : St} (h : SInv s) (e : Ev) : SInv (step s e) := by
  cases e with
  | setFc m b =>
    obtain ⟨g1, g2, g3, g4⟩ := maxFc_ge s.hi ⟨m, b⟩
    exact .of_parts (h.cap.mono g1 g2 ⟨g3, g4⟩ (.refl _)) (.token h.excl) h.book h.shape
  | loop =>
    simp only [Stream.step]
    split
    · exact h
    · rename_i hbud
      refine iteInduction (fun _ => h) fun hw => iteInduction (fun hcap => ?_) fun hcap => ?_
      · refine .of_parts (h.cap.fetch ?_ (Int.le_refl _) hcap.1 ?_) (.awake ((Bool.not_eq_true _).mp hw)) h.book h.shape
        · split <;> omega
        · intro hs
          simp only [Bool.or_eq_false_iff, Bool.not_eq_false'] at hs
          exact List.isEmpty_iff.mp hs.1
      · exact .of_parts h.cap (hbud ▸ .wait hcap) h.book h.shape
  | wake spurious => exact iteInduction (fun _ => .of_parts h.cap (.awake rfl) h.book h.shape) fun _ => h
  | query cands =>
    simp only [Stream.step]
    split
    · exact h
    · rename_i m b strict hbud
      have hc : Cap s.fc s.hi s.pending (some (m, b, strict)) := hbud ▸ h.cap
      have hw : s.waiting = false := h.excl (by rw [hbud]; exact nofun)
      obtain ⟨hl, hb⟩ := select_fits strict (hc.budget m b strict rfl).2.2.2 cands m
      simp only [h.bf, h.g, if_true]
      -- `insertAll`: a fetch is `settle` of the ids it sends, then fresh entries for them
      exact .of_parts ((hc.remove _).add hl hb) (.awake hw) (h.book.settle _).add ⟨rfl, rfl, h.ub⟩
  | fetchEmpty => exact .of_parts h.cap.idle h.sender.idle h.book h.shape
  | settle ids => exact .of_parts (h.cap.remove ids) (.token h.excl) (h.book.settle ids) h.shape
  | settleCommit ids => exact .of_parts h.cap h.sender (h.book.settleCommit ids) h.shape
  | settleBook => exact .of_parts (h.cap.remove _) (.token h.excl) h.book.settleBook h.shape
  | extSettle ids => exact .of_parts h.cap h.sender (h.book.extSettle ids) h.shape
  | refresh => exact .of_parts (h.cap.remove _) h.sender.refresh h.book.refresh h.shape
  | lateBook =>
    simp only [Stream.step, h.ub, insertAll_nil]
    exact .of_parts h.cap h.sender h.book ⟨h.g, h.bf, rfl⟩

theorem SInv.run {s : St} (h : SInv s) (evs : List Ev) : SInv (run s evs) := by
  induction evs generalizing s with
  | nil => exact h
  | cons e r ih => exact ih (h.step e)

/-- the outstanding messages: the entries of `pending` whose id is really still outstanding -/
def outstanding (s : St) : List (Nat × Nat) := s.pending.filter (fun x => s.out.contains x.1)

/-- **C11 (bound)**: after any sequence of events, every id sent and not yet acknowledged, nacked or
    expired is among the outstanding entries, which number at most the client's max outstanding
    messages and whose total size is at most max outstanding bytes — except for a single message. -/
theorem C11_bound (evs : List Ev) :
    let s := run {} evs
    (∀ i ∈ s.out, i ∈ (outstanding s).map (·.1)) ∧
    ((outstanding s).length : Int) ≤ s.hi.msgs ∧
    (bytesOf (outstanding s) ≤ s.hi.bytes ∨ (outstanding s).length ≤ 1) := by
  intro s
  have h : SInv s := SInv.init.run evs
  -- the outstanding entries are among the pending ones, which fit
  have c : Cap s.fc s.hi (outstanding s) s.budget :=
    h.cap.mono (Int.le_refl _) (Int.le_refl _) h.hi_ge List.filter_sublist
  refine ⟨fun i hi => ?_, c.count, c.bytes⟩
  obtain ⟨x, hx, rfl⟩ := List.mem_map.mp (h.out_sub i hi)
  exact List.mem_map.mpr ⟨x, List.mem_filter.mpr ⟨hx, List.contains_iff_mem.mpr hi⟩, rfl⟩

/-- **C11 (the oversized exception is exactly that)**: a fetch made while something is outstanding is
    strict — it never takes the total over the byte limit. -/
theorem C11_strict_when_pending (evs : List Ev) (m : Nat) (b : Int) :
    let s := run {} evs
    s.budget = some (m, b, false) → s.pending = [] := by
  intro s hb
  exact ((SInv.init.run evs).budget m b false hb).2.2.1 rfl

/-- **C11 (no missed capacity)**: after any sequence of events, if the sender sleeps in its
    flow-control wait and no wake token is pending, the limits are used up by what the streamer
    still holds as pending: every event that frees capacity (ack, nack, zero deadline, refresh after
    an outside acknowledgement, a flow-control message) leaves a token. -/
theorem C11_no_missed_capacity (evs : List Ev) :
    let s := run {} evs
    s.waiting = true → s.token = false →
      ¬ (0 < s.fc.bytes - bytesOf s.pending ∧ 0 < s.fc.msgs - s.pending.length) := by
  intro s
  exact (SInv.init.run evs).flow

/-! ### the reader between its COMMIT and its update of the map

`settleCommit` / `settleBook` split a stream ack / nack at the transaction boundary: after the
commit a nacked message is deliverable again and a fetch may send it before the reader updates the
map.  `C11_bound` above quantifies over these events as well.  It needs the reader to release only
the entries it saw before the database call (`guarded`); the source has that shape, and without it
the bound fails. -/

/-- the source's reader has the guarded shape, so the model's initial state is the one the theorems start from -/
theorem C11_reader_releases_guarded :
    (∀ r ∈ Extracted.streamerReaderReleases, r = "guarded") ∧ Extracted.streamerReaderReleases ≠ [] ∧
    St.ofSource = {} :=
  ⟨by decide, by decide, rfl⟩

/-- limits 2 messages: m1 is sent, nacked on the stream (commit), fetched and sent again before the
    reader updates the map, then m2 and m3 arrive.  An unguarded reader forgets the re-sent m1:
    three messages are outstanding. -/
theorem C11_unguarded_release_breaks_bound :
    let evs := [Ev.setFc 2 1000, .loop, .query [(1, 14)], .settleCommit [1], .loop, .query [(1, 14)], .settleBook,
                .loop, .query [(2, 14), (3, 14)]]
    (run { guarded := false } evs).out = [1, 2, 3] ∧ (run { guarded := false } evs).hi.msgs = 2 ∧
    (run {} evs).out = [1, 2] := by decide

/-- the two halves in direct succession are the atomic `settle` (as far as the sender can tell) -/
example : (run {} [.setFc 2 10, .loop, .query [(1, 4), (3, 5)], .settleCommit [1], .settleBook]).pending =
    (run {} [.setFc 2 10, .loop, .query [(1, 4), (3, 5)], .settle [1]]).pending := by decide

/-! ### what the streamer holds as pending is what is outstanding

`C11_no_missed_capacity` speaks about `pending`, the streamer's own book.  The book can lag behind
the truth — an Acknowledge made outside the stream, the reader between its COMMIT and its update —
but only while something is on its way to correct it: -/

/-- **C11 (the book converges)**: after any sequence of events, an entry of `pending` whose message
    is no longer outstanding is about to be released by the reader, or is settled in the database
    with a notification for the refresh goroutine outstanding. -/
theorem C11_stale_entries_are_excused (evs : List Ev) :
    let s := run {} evs
    ∀ x ∈ s.pending, x.1 ∉ s.out → x.1 ∈ s.releasing ∨ (x.1 ∈ s.done ∧ s.dirty = true) := by
  intro s
  exact (SInv.init.run evs).stale

/-- **C11 (no stall)**: after any sequence of events, when the reader is idle, no notification for the
    refresh goroutine is outstanding, and the sender sleeps in its flow-control wait without a wake
    token, the limits are used up by messages that are really outstanding: every entry counted
    against the limits is sent and neither acknowledged, nacked nor expired. -/
theorem C11_no_stall (evs : List Ev) :
    let s := run {} evs
    s.releasing = [] → s.dirty = false → s.waiting = true → s.token = false →
      (∀ x ∈ s.pending, x.1 ∈ s.out) ∧
      ¬ (0 < s.fc.bytes - bytesOf s.pending ∧ 0 < s.fc.msgs - s.pending.length) := by
  intro s hrel hdirty hw ht
  have h := SInv.init.run evs
  refine ⟨?_, h.flow hw ht⟩
  intro x hx
  apply Decidable.byContradiction
  intro hno
  rcases h.stale x hx hno with hr | hr
  · rw [hrel] at hr; cases hr
  · rw [hdirty] at hr; cases hr.2

/-- the source's sender has the book-first shape -/
theorem C11_sender_books_before_send :
    (∀ r ∈ Extracted.streamerBooksBeforeSend, r = "book-first") ∧ Extracted.streamerBooksBeforeSend ≠ [] := by
  simp [Extracted.streamerBooksBeforeSend]

/-- a sender that sends first: the client acknowledges m1 (outside the stream) before the sender has
    entered it into its book; the refresh goroutine finds nothing to drop; the late entry then stays,
    with nothing on its way to remove it — the stream believes its one slot is taken for ever -/
theorem C11_send_first_variant_stalls :
    let s := run { bookFirst := false } [Ev.setFc 1 1000, .loop, .query [(1, 14)], .extSettle [1], .refresh, .lateBook, .loop, .wake false, .loop]
    s.pending = [(1, 14)] ∧ s.out = [] ∧ s.dirty = false ∧ s.releasing = [] ∧ s.waiting = true ∧ s.token = false := by
  decide

/-- non-vacuity: limits 3 messages / 10 bytes; 3 candidates of 4, 8 and 5 bytes: the first and the
    third are sent, 8 does not fit; with limit 2 the sender then blocks; an ack leaves a token -/
example : (run {} [.setFc 3 10, .loop, .query [(1, 4), (2, 8), (3, 5)]]).pending = [(1, 4), (3, 5)] := by decide
example :
    let s := run {} [.setFc 2 10, .loop, .query [(1, 4), (3, 5)], .loop]
    s.pending = [(1, 4), (3, 5)] ∧ s.waiting = true := by decide
example :
    let s := run {} [.setFc 2 10, .loop, .query [(1, 4), (3, 5)], .loop, .settle [1]]
    s.pending = [(3, 5)] ∧ s.token = true ∧ s.waiting = true := by decide
/-- a single oversized message goes out when nothing is outstanding -/
example : (run {} [.setFc 2 10, .loop, .query [(1, 40), (2, 3)]]).pending = [(1, 40)] := by decide

/-- the model's `refresh` is one atomic step that removes what is settled in the database and was not
    sent again since; in the source the refresher takes the list of pending ids, asks the database, and
    applies the answer to *that list* (regenerated) — entries the sender books while the query is
    under way are not in the list and stay, which is what makes the atomic step a sound abstraction
    (a refresher that walks the live map instead deletes them: the scheduled run `bound-refresh-race`
    of the harness exhibits the bound being broken) -/
theorem C11_refresh_applies_to_snapshot : Extracted.streamerRefreshApplies = ["ids"] := rfl

/-- **C11 (the sender's fetch does not sleep through a change)**: the sender of a streaming pull
    fetches through the same wait loop as a Pull (`GetSubscriptionMessages.execute`): it registers for
    wake-ups *before* it queries (regenerated from the source), so — by the wake-up protocol's
    invariant, for every interleaving of any waiters and writers — a fetch that would sleep while
    something is deliverable on its subscription always has a committed writer whose wake-up call is
    still to come.  (The statement is that of `C10_no_lost_wakeup` beside the regenerated fact; no
    term of Model/Stream.lean occurs in it.) -/
theorem C11_fetch_no_lost_wakeup (subs maxes : Nat → Nat) (writers : Nat → List (Nat × Nat) × List Nat) (avail : Nat → Nat)
    (hcov : ∀ j s, 0 < Notify.addsFor (writers j).1 s → s ∈ (writers j).2) (sched : List Notify.Proc) :
    Extracted.pullRegistersBeforeQuery = true ∧
    (let σ := Notify.run Notify.Cfg.ofSource (Notify.init subs maxes writers avail) sched
     ∀ i, Notify.StuckProne σ.open (σ.waiter i) → 0 < σ.avail (σ.waiter i).sub →
      ∃ j, (σ.writer j).pc = 1 ∧ (σ.waiter i).sub ∈ (σ.writer j).wakes) :=
  ⟨rfl, (Notify.Inv.reachable Notify.Cfg.ofSource ⟨rfl, rfl⟩ subs maxes writers avail hcov sched).nolost⟩

end Mmmbbb.Stream

/-
C19 — HTTP push: documented envelope, success acks, anything else retries.

"… A success response (200, 201, 202 or 204; 102 where a client can observe it) acknowledges the
message so it is never pushed again; any other final status or a transport error leaves it
unacknowledged so it is pushed again after the backoff, and the number of concurrent pushes stays
within the adaptive window of 1 to 1000."

The status set and the window constants are read from the source by the extractor
(`Extracted.pushSuccessCodes`, `Extracted.pushWindowConsts`), so changing them breaks these
theorems.  Acknowledged ⇒ never pushed again is C03 (`C03_final`); not acknowledged ⇒ pushed again
after the back-off is C04 (`C04_lease_set`, the nack path) — the push streamer feeds its outcome
into exactly those actions (checked by the correspondence run of this property).
-/
import Mmmbbb.Model.Push
namespace Mmmbbb.Push

/-- the success statuses are exactly the documented ones -/
theorem C19_success_codes : Extracted.pushSuccessCodes = [102, 200, 201, 202, 204] := rfl

theorem classify_some (code : Nat) (fast : Bool) :
    classify (some code) fast = if Extracted.pushSuccessCodes.contains code then .ack fast else .nack := rfl

theorem success_iff (code : Nat) :
    Extracted.pushSuccessCodes.contains code = true ↔ (code = 102 ∨ code = 200 ∨ code = 201 ∨ code = 202 ∨ code = 204) := by
  simp [C19_success_codes]

/-- **C19 (status map)**: a push is acknowledged iff the endpoint answered with one of
    102 / 200 / 201 / 202 / 204 — for every status code whatsoever; a transport error and every
    other status nack. -/
theorem C19_status_map (code : Nat) (fast : Bool) :
    classify (some code) fast = .ack fast ↔ (code = 102 ∨ code = 200 ∨ code = 201 ∨ code = 202 ∨ code = 204) := by
  rw [classify_some, ← success_iff]
  cases Extracted.pushSuccessCodes.contains code <;> simp

theorem C19_transport_error_nacks (fast : Bool) : classify none fast = .nack := rfl

theorem C19_other_status_nacks (code : Nat) (fast : Bool)
    (h : ¬(code = 102 ∨ code = 200 ∨ code = 201 ∨ code = 202 ∨ code = 204)) : classify (some code) fast = .nack := by
  rw [classify_some, if_neg (fun hc => h ((success_iff code).mp hc))]

theorem window_consts : windowMax = 1000 ∧ windowMin = 1 ∧ nackFactor = 10 := ⟨rfl, rfl, rfl⟩
/-- there is no fourth constant in the window arithmetic -/
theorem window_consts_only : Extracted.pushWindowConsts.length = 3 := rfl

theorem grow_range (w hi d : Int) (hd : 0 ≤ d) :
    w ≤ (if w < hi then (if w + d > hi then hi else w + d) else w) ∧
    (w ≤ hi → (if w < hi then (if w + d > hi then hi else w + d) else w) ≤ hi) := by
  split
  · split <;> omega
  · omega

theorem shrink_range (w lo d : Int) (hd : 0 ≤ d) :
    (if w > lo then (if w - d < lo then lo else w - d) else w) ≤ w ∧
    (lo ≤ w → lo ≤ (if w > lo then (if w - d < lo then lo else w - d) else w)) := by
  split
  · split <;> omega
  · omega

theorem windowStep_range (w : Int) (n : Nat) :
    (w ≤ windowStep w (.fastAcks n) ∧ (w ≤ 1000 → windowStep w (.fastAcks n) ≤ 1000)) ∧
    (windowStep w (.slowAcks n) ≤ w ∧ (1 ≤ w → 1 ≤ windowStep w (.slowAcks n))) ∧
    (windowStep w (.nacks n) ≤ w ∧ (1 ≤ w → 1 ≤ windowStep w (.nacks n))) := by
  -- the bounds of the statement are the extracted constants
  obtain ⟨hmax, hmin, hf⟩ := window_consts
  rw [← hmax, ← hmin]
  exact ⟨grow_range w windowMax n (Int.natCast_nonneg n), shrink_range w windowMin n (Int.natCast_nonneg n),
    shrink_range w windowMin (nackFactor * n) (Int.mul_nonneg (hf ▸ by decide) (Int.natCast_nonneg n))⟩

theorem windowStep_bounds (w : Int) (b : Batch) (h : 1 ≤ w ∧ w ≤ 1000) :
    1 ≤ windowStep w b ∧ windowStep w b ≤ 1000 := by
  cases b with
  | fastAcks n => have := (windowStep_range w n).1; omega
  | slowAcks n => have := (windowStep_range w n).2.1; omega
  | nacks n => have := (windowStep_range w n).2.2; omega

theorem windowRun_bounds (bs : List Batch) (w : Int) (h : 1 ≤ w ∧ w ≤ 1000) :
    1 ≤ windowRun w bs ∧ windowRun w bs ≤ 1000 := by
  induction bs generalizing w with
  | nil => exact h
  | cons b r ih => exact ih _ (windowStep_bounds w b h)

/-- **C19 (window)**: whatever sequence of fast, slow and failing response batches arrives, in any
    order and of any length, the number of concurrent pushes the streamer allows stays within 1 … 1000. -/
theorem C19_window (bs : List Batch) : 1 ≤ windowRun windowInit bs ∧ windowRun windowInit bs ≤ 1000 :=
  windowRun_bounds bs windowInit (by decide)

/-- the window only grows on fast successes and only shrinks on slow successes / failures -/
theorem C19_window_direction (w : Int) (n : Nat) (h : 1 ≤ w ∧ w ≤ 1000) :
    w ≤ windowStep w (.fastAcks n) ∧ windowStep w (.slowAcks n) ≤ w ∧ windowStep w (.nacks n) ≤ w :=
  have ⟨a, b, c⟩ := windowStep_range w n
  ⟨a.1, b.1, c.1⟩

example : windowRun windowInit [.fastAcks 1, .fastAcks 2, .nacks 1, .fastAcks 3] = 4 := by decide

/-! ### supervision: every deliverable message is POSTed — also after a pusher died

The push service keeps one pusher per push subscription and looks, whenever one of the contexts it
watches is done (or once a minute), for pushers that have ended: those are removed and started again.
Which context it watches decides whether the death of a pusher is ever noticed. -/

inductive MonCtx
  /-- the context `errgroup.WithContext` returned: done as soon as the pusher's goroutine returns -/
  | errgroup
  /-- the context handed to `errgroup.WithContext`: done only when the service itself cancels the pusher -/
  | parent
deriving DecidableEq, Repr

structure Sup where
  /-- the pusher's goroutine is running -/
  running   : Bool
  /-- the service has cancelled it (push configuration removed, shutdown) -/
  cancelled : Bool
  /-- the subscription still has a push endpoint -/
  wanted    : Bool
deriving DecidableEq, Repr

def seenDone (c : MonCtx) (s : Sup) : Bool :=
  match c with
  | .errgroup => !s.running || s.cancelled
  | .parent => s.cancelled

/-- one round of `startPushersOnce`: harvest what is seen as done, start a pusher for every wanted
    subscription that has none -/
def superviseRound (c : MonCtx) (s : Sup) : Sup :=
  if seenDone c s then (if s.wanted then { running := true, cancelled := false, wanted := true } else { s with running := false })
  else s

def monCtxOfSource : MonCtx := if Extracted.pusherMonitorContext == "errgroup" then .errgroup else .parent

/-- **C19 (a dead pusher is started again)**: with the context the source watches, a pusher that ended on
    its own (a storage error, say) while its subscription still wants pushing is running again after one
    supervision round — whatever else the state says. -/
theorem C19_dead_pusher_restarted (s : Sup) (hdead : s.running = false) (hw : s.wanted = true) :
    monCtxOfSource = .errgroup ∧ (superviseRound monCtxOfSource s).running = true := by
  have hsrc : monCtxOfSource = .errgroup := by simp [monCtxOfSource, Extracted.pusherMonitorContext]
  refine ⟨hsrc, ?_⟩
  rw [hsrc]
  simp [superviseRound, seenDone, hdead, hw]

/-- watching the parent context instead: the dead pusher is never seen as done, round after round -/
theorem C19_parent_context_variant_never_restarts (n : Nat) :
    (Nat.repeat (superviseRound .parent) n { running := false, cancelled := false, wanted := true }).running = false := by
  -- the state is a fixed point of the round
  have fix : Nat.repeat (superviseRound .parent) n { running := false, cancelled := false, wanted := true } =
      { running := false, cancelled := false, wanted := true } := by
    induction n with
    | zero => rfl
    | succ k ih => rw [Nat.repeat, ih]; rfl
  rw [fix]

end Mmmbbb.Push

/-
C14 — Retention, expiry and delivery delay follow the configured durations.

"A message stays deliverable for exactly its subscription's retention duration counted from publish
(or from a seek that revived it) and is never delivered after that.  A subscription is expired only
after a full expiration TTL without any pull activity — every pull, even an empty one, restarts
the clock — and an expired subscription behaves as deleted.  With an injected delivery delay d, no
message is delivered earlier than d after its publish."
-/
import Mmmbbb.Proofs.StepFrame
namespace Mmmbbb

/-- **C14 (never after retention, never before due)**: whatever a pull hands out is inside its
    retention window (`now < expiresAt`) and due (`attemptAt ≤ now`). -/
theorem C14_delivered_in_window (st : St) (s : String) (mx mb : Nat) (strict : Bool) (wait : Int) (obs : PullObs)
    (i : Id) (n : Nat) (hmem : (i, n) ∈ (step st (.pull s mx mb strict wait obs)).2.delivered) :
    ∃ c, st.db.delById i = some c ∧ st.now < c.expiresAt ∧ c.attemptAt ≤ st.now := by
  obtain ⟨_, c, _, _, hc, helig, _⟩ := step_pull_delivered hmem
  obtain ⟨_, _, hret, hdue, _⟩ := Db.eligible_iff.mp helig
  exact ⟨c, hc, hret, hdue⟩

/-- the rows `deliverToSubscription` creates: retention counted from the enqueue instant, first
    attempt after the subscription's delivery delay -/
theorem C14_row_times (s : Sub) (m : Msg) (now : Time) (f : Fwd) :
    (mkDelivery s m now f).expiresAt = now + s.messageTtl ∧
    (mkDelivery s m now f).attemptAt = now + s.deliveryDelay ∧
    (mkDelivery s m now f).publishedAt = now ∧ (mkDelivery s m now f).completedAt = none := ⟨rfl, rfl, rfl, rfl⟩

/-- **C14 (delivery delay)**: a row enqueued at `p` with delivery delay `d` is leased until `p + d` in
    the sense of `held`: it is due only from `attemptAt = p + d` on.  That is the hypothesis of
    `C04_exclusive`, which then keeps it out of every pull response before `p + d` along continuations
    without nack / zero deadline / seek; the instance is not stated as a theorem of its own. -/
theorem C14_delay_held (s : Sub) (m : Msg) (p : Time) (f : Fwd) : held (p + s.deliveryDelay) (mkDelivery s m p f) :=
  Or.inl (Int.le_refl _)

theorem refreshExpiry_sub {db : Db} (s : Sub) {s0 : Sub} (now : Time) (hs : db.subById s.id = some s0) :
    (refreshExpiry db s now).subById s.id = some { s0 with expiresAt := now + s.ttl } := by
  have hid : (s0.id == s.id) = true := by simpa using (subById_mem hs).2
  refine (find?_updateWhere (key := Sub.id) (l := db.subs) ?_ s.id).trans ?_
  · intro _; rfl
  · show (db.subById s.id).map _ = _
    rw [hs]
    simp only [Option.map_some, hid, if_true]

/-- **C14 (every pull restarts the expiry clock)**: a pull that finds its subscription and nothing
    deliverable still leaves `expires_at = (clock when it returned) + ttl`. -/
theorem C14_empty_pull_refreshes (db : Db) (now : Time) (sub : String) (mx mb : Nat) (strict : Bool) (wait : Int)
    (obs : PullObs) (o : TxOut PullRes) (now' : Time) (s : Sub)
    (hs : db.liveSubByName sub = some s) (hid : db.subById s.id = some s)
    (h : pull db now sub mx mb strict wait obs = .ok (o, now')) (hc : obs.cands = []) :
    now' = now + wait ∧ ∃ s', o.db.subById s.id = some s' ∧ s'.expiresAt = now' + s.ttl := by
  obtain ⟨s', cands, hs', hcands, _, hcase⟩ := pull_ok h
  obtain rfl := Option.some.inj (hs.symm.trans hs')
  have hnil : cands = [] := List.map_eq_nil_iff.mp ((lookupAll_delById hcands).1.trans hc)
  rcases hcase with ⟨_, rfl, rfl⟩ | ⟨hne, _⟩
  · exact ⟨rfl, _, refreshExpiry_sub s _ (refreshExpiry_sub s now hid), rfl⟩
  · exact absurd hnil hne

/-- The expiry refresh that is the first statement of every pull transaction (`refreshExpiry`) sets
    `expires_at = now + ttl`.  (Stated for `refreshExpiry`; `pull` does not occur in it.) -/
theorem C14_refresh_first (db : Db) (s : Sub) (now : Time) (hid : db.subById s.id = some s) :
    ∃ s', (refreshExpiry db s now).subById s.id = some s' ∧ s'.expiresAt = now + s.ttl :=
  ⟨_, refreshExpiry_sub s now hid, rfl⟩

/-- **C14 (expiry only after a full TTL)**: the expiry sweep deletes a subscription only when its
    `expires_at` — set to `last pull + ttl` by every pull — lies in the past. -/
theorem C14_expiry_only_after_ttl (db : Db) (now : Time) (mx : Nat) (victims : List Id) (o : TxOut Nat)
    (h : expireSubs db now mx victims = .ok o) (v : Id) (hv : v ∈ victims) :
    ∃ s, db.subById v = some s ∧ s.expiresAt < now ∧ s.live = true := by
  obtain ⟨hok, _⟩ := expireSubs_ok h
  obtain ⟨r, hr, hp⟩ := limitOk_victims hok v hv
  simp only [Bool.and_eq_true, decide_eq_true_eq] at hp
  exact ⟨r, hr, hp.1, hp.2⟩

end Mmmbbb

import Mmmbbb.Extracted
import Mmmbbb.Model.Actions
import Mmmbbb.Model.Api
import Mmmbbb.Model.Backoff
import Mmmbbb.Model.Basic
import Mmmbbb.Model.Codec
import Mmmbbb.Model.Faults
import Mmmbbb.Model.Filter
import Mmmbbb.Model.FilterSyntax
import Mmmbbb.Model.Fragment
import Mmmbbb.Model.Notify
import Mmmbbb.Model.Ordered
import Mmmbbb.Model.Ordered2
import Mmmbbb.Model.Pure
import Mmmbbb.Model.Push
import Mmmbbb.Model.Step
import Mmmbbb.Model.Stream
import Mmmbbb.Model.Tx
import Mmmbbb.Proofs.Enqueue
import Mmmbbb.Proofs.FilterRoundTrip
import Mmmbbb.Proofs.Fragments
import Mmmbbb.Proofs.Frame
import Mmmbbb.Proofs.Kit
import Mmmbbb.Proofs.Lease
import Mmmbbb.Proofs.Loops
import Mmmbbb.Proofs.Notify
import Mmmbbb.Proofs.Offered
import Mmmbbb.Proofs.Ordered
import Mmmbbb.Proofs.Ordered2
import Mmmbbb.Proofs.OrderedSteps
import Mmmbbb.Proofs.Paging
import Mmmbbb.Proofs.Refines
import Mmmbbb.Proofs.Shape
import Mmmbbb.Proofs.StepFrame
import Mmmbbb.Proofs.Wakes
import Mmmbbb.Properties.C01
import Mmmbbb.Properties.C02
import Mmmbbb.Properties.C03
import Mmmbbb.Properties.C04
import Mmmbbb.Properties.C05
import Mmmbbb.Properties.C06
import Mmmbbb.Properties.C07
import Mmmbbb.Properties.C08
import Mmmbbb.Properties.C09
import Mmmbbb.Properties.C10
import Mmmbbb.Properties.C11
import Mmmbbb.Properties.C12
import Mmmbbb.Properties.C13
import Mmmbbb.Properties.C14
import Mmmbbb.Properties.C15
import Mmmbbb.Properties.C16
import Mmmbbb.Properties.C17
import Mmmbbb.Properties.C18
import Mmmbbb.Properties.C19
